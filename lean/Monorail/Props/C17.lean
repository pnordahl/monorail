import Monorail.Model.ConfigLoad
/-!
# C17 — a generated config is usable iff source, output and lockfile are untouched
-/
namespace Monorail

variable {V : Type}

/-- the printer and the parser agree on what `generate` writes -/
def Faithful (render : V → Nat → FileBytes) (parse : FileBytes → Option (ParsedCfg V)) (srcId : Nat) : Prop :=
  ∀ v c, parse (render v c) = some { value := v, hasSource := true, sourcePath := srcId, sourceChecksum := some c }

theorem generate_eq_some {H : FileBytes → Nat} {render : V → Nat → FileBytes} {v : V} {srcId : Nat}
    {d d' : Disk} (hg : generate H render v srcId d = some d') :
    ∃ src, d.sources srcId = some src ∧
      d' = { d with generated := some (render v (H src)), lock := some (H (render v (H src))) } := by
  revert hg
  fun_cases generate H render v srcId d with
  | case1 => nofun
  | case2 src hs => exact fun hg => ⟨src, hs, (Option.some.inj hg).symm⟩

/-- **C17 (accept).** After `config generate`, as long as the source file, the generated file and
the lockfile are what `generate` read and wrote, loading + checking succeeds — for sources and
generated files of every size (the whole file is read). -/
theorem c17_accept (H : FileBytes → Nat) (render : V → Nat → FileBytes)
    (parse : FileBytes → Option (ParsedCfg V)) (srcId : Nat) (hf : Faithful render parse srcId)
    (v : V) (d d' : Disk) (hg : generate H render v srcId d = some d') :
    loadAndCheck H parse d' = .ok v := by
  obtain ⟨src, hs, rfl⟩ := generate_eq_some hg
  simp [loadAndCheck, readAll, hf v (H src), hs]

/-- What `c17_detect_source` needs of the digest: that it tells the edited source from the one
`generate` read. No digest with a bounded range is injective; this form applies to one that is not. -/
theorem detect_source_of_digest_ne (H : FileBytes → Nat)
    (render : V → Nat → FileBytes) (parse : FileBytes → Option (ParsedCfg V)) (srcId : Nat)
    (hf : Faithful render parse srcId) (v : V) (d d' : Disk)
    (hg : generate H render v srcId d = some d') (src src' : FileBytes)
    (hsrc : d.sources srcId = some src) (hH : H src' ≠ H src) :
    loadAndCheck H parse { d' with sources := fun i => if i = srcId then some src' else d'.sources i } =
      .error .sourceModified := by
  obtain ⟨src0, hs, rfl⟩ := generate_eq_some hg
  obtain rfl : src = src0 := Option.some.inj (hsrc.symm.trans hs)
  simp [loadAndCheck, readAll, hf v (H src), hH]

/-- **C17 (source edits are detected).** If the source file's bytes change in any way (any offset,
truncation, append) and `H` is collision free, every API that loads the configuration fails. -/
theorem c17_detect_source (H : FileBytes → Nat) (hinj : Function.Injective H)
    (render : V → Nat → FileBytes) (parse : FileBytes → Option (ParsedCfg V)) (srcId : Nat)
    (hf : Faithful render parse srcId) (v : V) (d d' : Disk)
    (hg : generate H render v srcId d = some d') (src src' : FileBytes)
    (hsrc : d.sources srcId = some src) (hne : src' ≠ src) :
    ∃ e, loadAndCheck H parse { d' with sources := fun i => if i = srcId then some src' else d'.sources i } = .error e :=
  ⟨_, detect_source_of_digest_ne H render parse srcId hf v d d' hg src src' hsrc (hinj.ne hne)⟩

/-- **C17 (a removed source is detected).** -/
theorem c17_detect_source_missing (H : FileBytes → Nat)
    (render : V → Nat → FileBytes) (parse : FileBytes → Option (ParsedCfg V)) (srcId : Nat)
    (hf : Faithful render parse srcId) (v : V) (d d' : Disk)
    (hg : generate H render v srcId d = some d') :
    loadAndCheck H parse { d' with sources := fun i => if i = srcId then none else d'.sources i } = .error .sourceMissing := by
  obtain ⟨src, hs, rfl⟩ := generate_eq_some hg
  simp [loadAndCheck, readAll, hf v (H src)]

/-- What `c17_detect_generated` needs of the digest: that it tells the edited file from the one
`generate` wrote. -/
theorem detect_generated_of_digest_ne (H : FileBytes → Nat)
    (render : V → Nat → FileBytes) (parse : FileBytes → Option (ParsedCfg V)) (srcId : Nat)
    (v : V) (d d' : Disk) (hg : generate H render v srcId d = some d') (gen' : FileBytes)
    (hH : ∀ g, d'.generated = some g → H gen' ≠ H g)
    (hsrc : ∀ cfg, parse gen' = some cfg → cfg.hasSource = true) :
    ∃ e, loadAndCheck H parse { d' with generated := some gen' } = .error e := by
  obtain ⟨src, -, rfl⟩ := generate_eq_some hg
  have h2 : H gen' ≠ H (render v (H src)) := hH _ rfl
  -- of the nine exits of `loadAndCheck` two accept: no source declared, and both checksums right
  fun_cases loadAndCheck H parse _ with
  | case3 file hfile bytes cfg hp hno =>
    cases hfile
    rewrite [hsrc cfg hp] at hno
    cases hno
  | case9 file hfile bytes cfg hp _ s3 _ lk hlk rs _ _ hgen =>
    cases hfile
    cases hlk
    exact absurd h2 hgen
  | _ => exact ⟨_, rfl⟩

/-- **C17 (edits of the generated file are detected).** If the generated file's bytes change in any
way and `H` is collision free, loading fails: either the file no longer parses, or — as long as it
still declares a source, which no single-byte edit, truncation or append can undo — one of the two
checksum comparisons fails. -/
theorem c17_detect_generated (H : FileBytes → Nat) (hinj : Function.Injective H)
    (render : V → Nat → FileBytes) (parse : FileBytes → Option (ParsedCfg V)) (srcId : Nat)
    (v : V) (d d' : Disk) (hg : generate H render v srcId d = some d') (gen' : FileBytes)
    (hne : some gen' ≠ d'.generated)
    (hsrc : ∀ cfg, parse gen' = some cfg → cfg.hasSource = true) :
    ∃ e, loadAndCheck H parse { d' with generated := some gen' } = .error e :=
  detect_generated_of_digest_ne H render parse srcId v d d' hg gen'
    (fun _ hg' e => hne (hg'.symm ▸ congrArg some (hinj e))) hsrc

/-- **C17 (an edited lockfile checksum is detected).** -/
theorem c17_detect_lock (H : FileBytes → Nat)
    (render : V → Nat → FileBytes) (parse : FileBytes → Option (ParsedCfg V)) (srcId : Nat)
    (hf : Faithful render parse srcId) (v : V) (d d' : Disk)
    (hg : generate H render v srcId d = some d') (lk' : Nat) (hne : some lk' ≠ d'.lock) :
    loadAndCheck H parse { d' with lock := some lk' } = .error .generatedModified := by
  obtain ⟨src, hs, rfl⟩ := generate_eq_some hg
  have : H (render v (H src)) ≠ lk' := fun e => hne (congrArg some e.symm)
  simp [loadAndCheck, readAll, hf v (H src), hs, this]

/-- **C17 (no action on failure).** Every API other than `config generate` checks before it acts:
when loading or checking fails, the action is not performed. -/
theorem c17_no_action {A : Type} (H : FileBytes → Nat) (parse : FileBytes → Option (ParsedCfg V)) (d : Disk)
    (action : V → A) (e : LoadErr) (h : loadAndCheck H parse d = .error e) :
    handle H parse d action = .error e := by
  rw [handle, h]

/-! ## The unrepaired loader rejected every generated file larger than its buffer -/
example : fillBufOnce 8192 (List.replicate 9000 32) ≠ readAll (List.replicate 9000 32) :=
  fun h => by
    have := congrArg List.length h
    rewrite [fillBufOnce, readAll, List.length_take, List.length_replicate] at this
    exact absurd this (by decide)

/-! ## Non-vacuity: a toy instance (identity-like digest, printer = parser inverse) -/
example :
    let H : FileBytes → Nat := fun b => b.foldl (fun a x => a * 257 + x + 1) 0
    let render : Nat → Nat → FileBytes := fun v c => [v, c]
    let parse : FileBytes → Option (ParsedCfg Nat) := fun b => match b with
      | [v, c] => some { value := v, hasSource := true, sourcePath := 0, sourceChecksum := some c }
      | _ => none
    let d : Disk := { generated := none, sources := fun i => if i = 0 then some [1, 2, 3] else none, lock := none }
    (generate H render 7 0 d).map (fun d' => (match loadAndCheck H parse d' with | .ok v => some v | .error _ => none)) = some (some 7) := by
  decide +kernel

end Monorail
