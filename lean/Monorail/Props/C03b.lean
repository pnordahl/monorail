import Monorail.Props.C09
/-!
# C03 — the code path end to end (visibility walk + in-degree loop)

Kept apart from `Props/C03.lean` because it needs C09's rejection theorem.
-/
namespace Monorail

/-- **C03 (the code path, end to end).** Whatever `Index::new`'s depth-first visibility walks from
the requested roots followed by `get_groups`' counter / queue loop return as groups is a partition
of exactly the nodes reachable from the roots, and every such node is in a strictly earlier group
than each node it depends on (`get_groups` order: dependents first; `get_labeled_groups` reverses
it). -/
theorem c03_index_dfs {g : Graph} (hr : InRange g) (roots : List Nat) (hroots : ∀ r ∈ roots, r < g.size)
    (cs : List (List Nat)) (h : indexGroups g roots = .ok cs) :
    cs.flatten.Perm (closure g roots) ∧
    (∀ x, x ∈ cs.flatten ↔ ∃ r ∈ roots, Reach g r x) ∧
    ∀ u ∈ closure g roots, ∀ v ∈ g.out u, Before cs u v := by
  have hk := c03_kahn hr roots cs ((c09_index_dfs g hr roots hroots).2 cs h)
  exact ⟨hk.1, fun x => hk.1.mem_iff.trans (mem_closure_of_lt g hr hroots x), hk.2⟩

/-- **C03 (the code path succeeds).** If no node reachable from the roots lies on a cycle, the
walks and the loop succeed. -/
theorem c03_index_dfs_succeeds {g : Graph} (hr : InRange g) (roots : List Nat)
    (hroots : ∀ r ∈ roots, r < g.size) (hac : ∀ v ∈ closure g roots, ¬ Reach1 g v v) :
    ∃ cs, indexGroups g roots = .ok cs := by
  cases hi : indexGroups g roots with
  | ok cs => exact ⟨cs, rfl⟩
  | error e =>
    cases e
    exact absurd (complete_of_noCycle g _ hac)
      (groups_error_iff.mp ((c09_index_dfs g hr roots hroots).1.mp hi))

/-- a diamond with a tail: the walk flags 0..4, the loop layers them -/
example : indexGroups ⟨[[1, 2], [3], [3], [4], []]⟩ [0] = .ok [[0], [2, 1], [3], [4]] := by decide +kernel

end Monorail
