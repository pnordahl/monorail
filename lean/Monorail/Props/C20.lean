import Monorail.Proofs.Log
/-!
# C20 — what `log tail` prints reassembles to each task's log, within its filters
-/
namespace Monorail

def payloads : List CReq → List (List Bytes)
  | [] => []
  | .data ls :: rest => ls :: payloads rest
  | .endReq :: rest => payloads rest

theorem payloads_append (a b : List CReq) : payloads (a ++ b) = payloads a ++ payloads b := by
  fun_induction payloads a with
  | case1 => rfl
  | case2 ls rest ih => exact congrArg (ls :: ·) ih
  | case3 rest ih => exact ih

theorem dataBytes_payloads (out : List CReq) : dataBytes out = ((payloads out).map List.flatten).flatten := by
  fun_induction payloads out with
  | case1 => rfl
  | case2 ls rest ih => exact congrArg (ls.flatten ++ ·) ih
  | case3 rest ih => exact ih

/-- the listener is attached and has been sent every flush so far -/
def Streamed (s : RSt) : Prop := s.client = true ∧ s.blocks = payloads s.out

theorem streamed_flush (s : RSt) (h : Streamed s) : Streamed (flush (fun _ => true) s) := by
  fun_cases flush _ s with
  | case1 => exact h
  | case2 => exact ⟨h.1, by rewrite [payloads_append, ← h.2]; rfl⟩
  | case3 _ _ _ hok => exact absurd rfl hok
  | case4 _ _ hc => exact absurd h.1 hc

theorem streamed_finish (s : RSt) (r : Bool) (h : Streamed s) : Streamed (finish (fun _ => true) s r) := by
  rewrite [finish_eq]
  simpa [Streamed, payloads_append, payloads] using streamed_flush { s with lines := _, buf := [] } h

theorem streamed_rstep (s : RSt) (ev : REv) (h : Streamed s) : Streamed (rstep (fun _ => true) s ev) := by
  by_cases hd : s.done = none
  · rewrite [rstep_running _ s ev hd]
    cases ev with
    | chunk bs => exact h
    | tick => exact streamed_flush s h
    | eof | cancel => exact streamed_finish s _ h
  · rwa [rstep_done _ s ev hd]

/-- **C20 (blocks = flushes).** With a listener that stays connected, the blocks it is sent are
exactly the flushes sent to the compressor, in the same order — for every chunking and tick
placement. -/
theorem c20_blocks (evs : List REv) :
    (rrun (fun _ => true) true evs).blocks = payloads (rrun (fun _ => true) true evs).out :=
  (List.foldlRecOn evs _ (motive := Streamed) ⟨rfl, rfl⟩ fun s h ev _ => streamed_rstep s ev h).2

/-- **C20 (reassembly, every interleaving).** Whatever the interleaving of the tasks' blocks on the
shared connection — all that is needed is that the blocks of key `k` appear in the order its reader
wrote them (each block is written under the connection mutex) — concatenating the bodies of the
blocks carrying `k`'s header reproduces exactly the bytes stored for `k`. -/
theorem c20_project (conn : List (Nat × List Bytes)) (k : Nat) (evs : List REv)
    (hmutex : (conn.filter (fun b => b.1 = k)).map (·.2) = (rrun (fun _ => true) true evs).blocks) :
    project conn k = dataBytes (rrun (fun _ => true) true evs).out := by
  rewrite [dataBytes_payloads, ← c20_blocks, ← hmutex, List.map_map]
  rfl

/-- **C20 (blocks consist of whole lines).** Every line flushed by a tick is newline-terminated and
contains no other newline, so a block never splits a line of newline-terminated text. -/
theorem c20_lines (b l : Bytes) (h : l ∈ (splitLines b).1) :
    ∃ body, l = body ++ [newline] ∧ newline ∉ body := splitLines_lines b l h

/-- **C20 (filters).** A stream is sent to the listener only if its target and command pass the
listener's filters (an empty filter admits everything) and its stream is selected. -/
theorem c20_filter (ts cs : List String) (o e : Bool) (t c : String) (isOut : Bool) :
    logAllowed ts cs o e t c isOut = true ↔
      (ts = [] ∨ t ∈ ts) ∧ (cs = [] ∨ c ∈ cs) ∧ (if isOut then o = true else e = true) := by
  simp only [logAllowed, Bool.and_eq_true, Bool.or_eq_true, List.isEmpty_iff, List.contains_iff_mem, and_assoc]
  cases isOut <;> rfl

/-! ## Non-vacuity: two tasks interleaved on one connection -/
example :
    let evsA := [REv.chunk [97, 10, 98], .tick, .chunk [10], .eof]
    let evsB := [REv.chunk [120, 10], .tick, .chunk [121, 10], .eof]
    let conn : List (Nat × List Bytes) := [(1, [[120, 10]]), (0, [[97, 10]]), (0, [[98, 10]]), (1, [[121, 10]])]
    project conn 0 = dataBytes (rrun (fun _ => true) true evsA).out ∧
    project conn 1 = dataBytes (rrun (fun _ => true) true evsB).out := by decide +kernel

end Monorail
