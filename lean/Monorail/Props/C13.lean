import Monorail.Proofs.Store
/-!
# C13 — a crash during `run` never damages previously recorded state

A crash is a strict prefix of the run's effect list (the final effect is the atomic rename of the
pointer), optionally followed by a *torn* version of the next effect (a log file, the result file
or the temporary pointer file only partially written).
-/
namespace Monorail

/-- a write that was interrupted half-way -/
def tear : Eff → Eff
  | .writeLog i k _ => .writeLog i k .torn
  | .writeResult i _ => .writeResult i .torn
  | e => e

/-- the store a `run` killed after `k` effects (and, if `torn`, in the middle of the next one) leaves -/
def crashed (max : Nat) (s : Store) (r : Run) (k : Nat) (torn : Bool) : Store :=
  let body := runBody (nextId s.pointer max) r
  let pre := applyAll s (body.take k)
  if torn then
    match body[k]? with
    | some e => applyEff pre (tear e)
    | none => pre
  else pre

theorem tear_local {n : Nat} {e : Eff} (h : LocalTo n e) : LocalTo n (tear e) := by
  cases e <;> exact h

/-- everything but the next slot (and the temporary pointer file) is untouched by a crashed run -/
theorem crashed_frame (max : Nat) (s : Store) (r : Run) (k : Nat) (torn : Bool) :
    (crashed max s r k torn).pointer = s.pointer ∧
    ∀ j, j ≠ nextId s.pointer max → (crashed max s r k torn).slots j = s.slots j := by
  -- the statement is `Frame (nextId s.pointer max) s (crashed max s r k torn)` written out
  have hloc := runBody_local (nextId s.pointer max) r
  have hpre := applyAll_local ((runBody (nextId s.pointer max) r).take k)
    (fun e he => hloc e (List.mem_of_mem_take he)) s
  fun_cases crashed max s r k torn with
  | case1 body pre ht e he =>
    exact hpre.trans (applyEff_local (tear_local (hloc e (List.mem_of_getElem? he))) _)
  | case2 | case3 => exact hpre

/-- **C13 (previous state preserved).** With `max_retained_runs ≥ 2`: wherever a `run` is killed —
before, during or after command execution, including in the middle of writing a log, the result
file or the pointer's temporary file — `result show` and `log show` (latest, and every retained
slot other than the one being rebuilt) return exactly what they returned before. -/
theorem c13_preserved (max : Nat) (hmax : 2 ≤ max) (s : Store) (r : Run) (k : Nat) (torn : Bool) :
    resultShow (crashed max s r k torn) = resultShow s ∧
    logShow (crashed max s r k torn) none = logShow s none ∧
    ∀ i, i ≠ nextId s.pointer max → logShow (crashed max s r k torn) (some i) = logShow s (some i) := by
  obtain ⟨hp, hs⟩ := crashed_frame max s r k torn
  obtain ⟨h1, h2⟩ := show_congr hp fun p h => hs p (h ▸ (nextId_ne_pointer max hmax p).symm)
  exact ⟨h1, h2, fun i hi => congrArg (Option.map Slot.logs) (hs i hi)⟩

/-- **C13 (the next run succeeds normally).** A complete `run` started from the crashed store ends
in the same pointer and the same content of every slot as the same run started from the store
before the crash: the crash leaves no trace. -/
theorem c13_next (max : Nat) (s : Store) (r r' : Run) (k : Nat) (torn : Bool) :
    (doRun max (crashed max s r k torn) r').pointer = (doRun max s r').pointer ∧
    (doRun max (crashed max s r k torn) r').tmp = (doRun max s r').tmp ∧
    ∀ j, (doRun max (crashed max s r k torn) r').slots j = (doRun max s r').slots j := by
  rewrite [doRun_congr (crashed_frame max s r k torn)]
  exact ⟨rfl, rfl, fun _ => rfl⟩

/-! ## The unrepaired pointer write (truncate, then write in place) is not crash safe -/

/-- pinned tree: `Run::save` opened `run.json` with truncate and wrote it afterwards -/
def legacySaveCrashed (_old : LegacyPtr) : LegacyPtr := .empty

def legacyResultShow : LegacyPtr → Option Nat
  | .readable v => some v
  | .empty => none

/-- a kill between the truncation and the write loses the pointer: `result show` fails -/
example : legacyResultShow (legacySaveCrashed (.readable 3)) ≠ legacyResultShow (.readable 3) := by decide +kernel

/-! ## Non-vacuity: a crash in the middle of the result write of the third run, max = 2 -/

def exStore : Store := history 2 [⟨10, [(1, 100)]⟩, ⟨20, [(1, 200)]⟩]
def exRun : Run := ⟨30, [(1, 300), (2, 301)]⟩

-- effects: wipe, mkSlot, writeLog, writeLog, writeResult, ptrTmp ; k = 4 torn = crash inside writeResult
example : resultShow (crashed 2 exStore exRun 4 true) = some 20 ∧
    (crashed 2 exStore exRun 4 true).slots 1 = some { result := some .torn, logs := [(1, .full 300), (2, .full 301)] } ∧
    resultShow (doRun 2 (crashed 2 exStore exRun 4 true) ⟨40, []⟩) = some 40 := by decide +kernel

end Monorail
