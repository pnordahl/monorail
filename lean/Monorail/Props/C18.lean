import Monorail.Model.ConfigLoad
/-!
# C18 — configuration meaning depends only on its JSON value
-/
namespace Monorail

variable {V : Type}

theorem loadAndCheck_plain (H : FileBytes → Nat) {parse : FileBytes → Option (ParsedCfg V)} (d : Disk)
    {file : FileBytes} (hplain : ∀ cfg, parse file = some cfg → cfg.hasSource = false) :
    loadAndCheck H parse { d with generated := some file } =
      match parse file with
      | none => .error .invalid
      | some cfg => .ok cfg.value := by
  unfold loadAndCheck
  dsimp only [readAll]
  cases hp : parse file with
  | none => rfl
  | some cfg => dsimp only; rewrite [hplain cfg hp]; rfl

/-- **C18 (value semantics).** Loading factors through the parser applied to the *whole* file: two
files that the parser maps to the same result — re-serialisations of one JSON value with different
whitespace, key order or total size — give the same outcome of loading, hence the same input to
every API, when no `source` object is involved. -/
theorem c18_value (H : FileBytes → Nat) (parse : FileBytes → Option (ParsedCfg V)) (d : Disk)
    (f1 f2 : FileBytes) (hparse : parse f1 = parse f2)
    (hplain : ∀ cfg, parse f1 = some cfg → cfg.hasSource = false) :
    loadAndCheck H parse { d with generated := some f1 } = loadAndCheck H parse { d with generated := some f2 } := by
  rw [loadAndCheck_plain H d hplain, loadAndCheck_plain H d (hparse ▸ hplain), hparse]

/-- **C18 (every API computes from the value only).** Whatever an API computes (`action`), it is a
function of the decoded value: equal parse results give equal answers. -/
theorem c18_apis {A : Type} (H : FileBytes → Nat) (parse : FileBytes → Option (ParsedCfg V)) (d : Disk)
    (f1 f2 : FileBytes) (hparse : parse f1 = parse f2)
    (hplain : ∀ cfg, parse f1 = some cfg → cfg.hasSource = false) (action : V → A) :
    handle H parse { d with generated := some f1 } action = handle H parse { d with generated := some f2 } action := by
  simp only [handle, c18_value H parse d f1 f2 hparse hplain]

/-- **C18 (size).** The loader hands the parser the entire file, for every length — there is no
buffer size after which content is ignored. -/
theorem c18_size (file : FileBytes) : readAll file = file := rfl

/-- the unrepaired loader did not: a file longer than the buffer was cut -/
theorem c18_legacy_cut (cap : Nat) (file : FileBytes) (h : cap < file.length) :
    fillBufOnce cap file ≠ file := by
  intro e
  have := congrArg List.length e
  rewrite [fillBufOnce, List.length_take, Nat.min_eq_left (Nat.le_of_lt h)] at this
  exact Nat.ne_of_lt h this

/-! ## Non-vacuity: two spellings of one value -/
example :
    let parse : FileBytes → Option (ParsedCfg Nat) := fun b =>
      -- a toy parser that ignores the byte 32 (whitespace)
      match b.filter (· ≠ 32) with
      | [v] => some { value := v, hasSource := false, sourcePath := 0, sourceChecksum := none }
      | _ => none
    let d : Disk := { generated := none, sources := fun _ => none, lock := none }
    let big : FileBytes := 7 :: List.replicate 40 32
    (match loadAndCheck (fun _ => 0) parse { d with generated := some [32, 7] } with | .ok v => some v | .error _ => none) =
    (match loadAndCheck (fun _ => 0) parse { d with generated := some big } with | .ok v => some v | .error _ => none) := by
  decide +kernel

end Monorail
