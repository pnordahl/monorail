import Monorail.Model.Lock
import Monorail.Generated.Consts
/-!
# C14 — mutating invocations on one repository are mutually exclusive
-/
namespace Monorail

theorem setProc_eq_modify (ps : List LProc) (p : Nat) (f : LProc → LProc) :
    setProc ps p f = ps.modify p f := by
  fun_induction setProc ps p f with
  | case1 => rw [List.modify_nil]
  | case2 => rw [List.modify_zero_cons]
  | case3 x xs n ih => rw [ih, List.modify_succ_cons]

theorem getElem?_setProc_self {ps : List LProc} {p : Nat} {x : LProc} (hx : ps[p]? = some x)
    (f : LProc → LProc) : (setProc ps p f)[p]? = some (f x) := by
  rewrite [setProc_eq_modify, List.getElem?_modify_eq, hx]; rfl

theorem getElem?_setProc_ne (ps : List LProc) {p q : Nat} (hq : q ≠ p) (f : LProc → LProc) :
    (setProc ps p f)[q]? = ps[q]? := by
  rw [setProc_eq_modify, List.getElem?_modify_ne _ _ (Ne.symm hq)]

theorem pcOf_eq_some {s : LockSt} {p : Nat} {pc : Pc} :
    pcOf s p = some pc ↔ ∃ x, s.procs[p]? = some x ∧ x.pc = pc :=
  Option.map_eq_some_iff

theorem pcOf_setProc_self {ps : List LProc} {p : Nat} {x : LProc} (hx : ps[p]? = some x)
    (f : LProc → LProc) (l : Option Nat) : pcOf ⟨setProc ps p f, l⟩ p = some (f x).pc := by
  rewrite [pcOf, getElem?_setProc_self hx]; rfl

/-- `holder`: the lock names the one process past acquisition; `loser`: a refused process has exited
with the lock error and without an effect; `idle`: a process that has not tried yet has none either
(what lets a refusal conclude `effects = 0`). -/
structure LockInv (s : LockSt) : Prop where
  holder : ∀ p, pcOf s p = some .holding ↔ s.lock = some p
  loser : ∀ (p : Nat) (x : LProc), s.procs[p]? = some x → x.lockFailed = true → x.effects = 0 ∧ x.pc = Pc.exited lockErrorRc
  idle : ∀ (p : Nat) (x : LProc), s.procs[p]? = some x → x.pc = Pc.start → x.effects = 0

theorem LockInv.holder_get {s : LockSt} (h : LockInv s) {p : Nat} {x : LProc}
    (hx : s.procs[p]? = some x) : x.pc = .holding ↔ s.lock = some p := by
  rewrite [← h.holder, pcOf, hx]; exact Option.some_inj.symm

theorem LockInv.not_failed {s : LockSt} (h : LockInv s) {p : Nat} {x : LProc}
    (hx : s.procs[p]? = some x) (hpc : x.pc ≠ .exited lockErrorRc) : x.lockFailed ≠ true :=
  fun hf => hpc (h.loser p x hx hf).2

theorem LockInv.lock_eq_none {s : LockSt} (h : LockInv s) :
    s.lock = none ↔ ∀ q, pcOf s q ≠ some .holding := by
  simp only [ne_eq, h.holder, Option.eq_none_iff_forall_ne_some]

/-- Every transition of `lstep` has this shape: process `p` goes from `x` to `f x` and the lock gets
a new value. The invariant survives if `p` is the new lock value exactly when it now holds, the
lock value is otherwise the old one, and `f x` itself satisfies the two clauses about one process. -/
theorem LockInv.update {s : LockSt} (h : LockInv s) {p : Nat} {x : LProc} (hx : s.procs[p]? = some x)
    (f : LProc → LProc) (lock' : Option Nat)
    (hself : (f x).pc = .holding ↔ lock' = some p)
    (hother : ∀ q, q ≠ p → (s.lock = some q ↔ lock' = some q))
    (hloser : (f x).lockFailed = true → (f x).effects = 0 ∧ (f x).pc = .exited lockErrorRc)
    (hidle : (f x).pc = .start → (f x).effects = 0) :
    LockInv ⟨setProc s.procs p f, lock'⟩ :=
  { holder := fun q => by
      by_cases hq : q = p
      · rewrite [hq, pcOf_setProc_self hx, Option.some_inj]; exact hself
      · rewrite [pcOf, getElem?_setProc_ne _ hq, ← hother q hq]; exact h.holder q
    loser := fun q y hy => by
      by_cases hq : q = p
      · rewrite [hq, getElem?_setProc_self hx] at hy; cases hy; exact hloser
      · rewrite [getElem?_setProc_ne _ hq] at hy; exact h.loser q y hy
    idle := fun q y hy => by
      by_cases hq : q = p
      · rewrite [hq, getElem?_setProc_self hx] at hy; cases hy; exact hidle
      · rewrite [getElem?_setProc_ne _ hq] at hy; exact h.idle q y hy }

/-- Every event is guarded: a disabled one leaves the state as it is. -/
theorem LockInv.ite {s s' : LockSt} {c : Prop} [Decidable c] (h : LockInv s) (h' : c → LockInv s') :
    LockInv (if c then s' else s) := by
  split
  · exact h' ‹_›
  · exact h

theorem getElem?_lockInit {n p : Nat} {x : LProc} (hx : (lockInit n).procs[p]? = some x) :
    x = { pc := .start, effects := 0, lockFailed := false } :=
  (List.mem_replicate.mp (List.mem_of_getElem? hx)).2

theorem lockInit_inv (n : Nat) : LockInv (lockInit n) := by
  refine ⟨fun p => ⟨fun h => ?_, fun h => nomatch h⟩, fun p x hx hf => ?_, fun p x hx _ => ?_⟩
  · obtain ⟨x, hx, hpc⟩ := pcOf_eq_some.mp h
    cases getElem?_lockInit hx; cases hpc
  · cases getElem?_lockInit hx; cases hf
  · cases getElem?_lockInit hx; rfl

theorem LockInv.refuse {s : LockSt} (h : LockInv s) {p : Nat} (hp : pcOf s p = some .start) :
    LockInv { s with procs := setProc s.procs p fun x =>
      { x with pc := .exited lockErrorRc, lockFailed := true } } := by
  obtain ⟨x, hx, hpc⟩ := pcOf_eq_some.mp hp
  exact h.update hx _ _ (hself := by simp [← h.holder_get hx, hpc]) (hother := fun _ _ => .rfl)
    (hloser := fun _ => ⟨h.idle p x hx hpc, rfl⟩) (hidle := Pc.noConfusion)

theorem LockInv.release {s : LockSt} (h : LockInv s) {p : Nat} (hp : pcOf s p = some .holding)
    (pc' : Pc) (h1 : pc' ≠ .holding) (h2 : pc' ≠ .start) :
    LockInv ⟨setProc s.procs p fun x => { x with pc := pc' }, none⟩ := by
  obtain ⟨x, hx, hpc⟩ := pcOf_eq_some.mp hp
  have hnf := h.not_failed hx (by simp [hpc])
  have hl := (h.holder p).mp hp
  exact h.update hx _ _ (hself := by simp [h1]) (hother := by simp [hl, eq_comm])
    (hloser := (absurd · hnf)) (hidle := (absurd · h2))

theorem lstep_inv {s : LockSt} (h : LockInv s) (e : LEv) : LockInv (lstep s e) := by
  cases e with
  | tryAcquire p =>
    refine h.ite fun hp => ?_
    split
    · next hl =>
      obtain ⟨x, hx, hpc⟩ := pcOf_eq_some.mp hp
      have hnf := h.not_failed hx (by simp [hpc])
      exact h.update hx _ _ (hself := iff_of_true rfl rfl) (hother := by simp [hl, eq_comm])
        (hloser := (absurd · hnf)) (hidle := Pc.noConfusion)
    · exact h.refuse hp
  | effect p =>
    refine h.ite fun hp => ?_
    obtain ⟨x, hx, hpc⟩ := pcOf_eq_some.mp hp
    have hnf := h.not_failed hx (by simp [hpc])
    exact h.update hx _ _ (hself := h.holder_get (x := x) hx) (hother := fun _ _ => .rfl)
      (hloser := (absurd · hnf)) (hidle := by simp [hpc])
  | finish p rc => exact h.ite fun hp => h.release hp _ Pc.noConfusion Pc.noConfusion
  | kill p =>
    -- outer guard: `p` holds the lock (a release); inner, its else branch: `p` is still starting
    refine LockInv.ite (h.ite fun hstart => ?_) fun hhold => h.release hhold _ Pc.noConfusion Pc.noConfusion
    obtain ⟨x, hx, hpc⟩ := pcOf_eq_some.mp hstart
    have hnf := h.not_failed hx (by simp [hpc])
    exact h.update hx _ _ (hself := by simp [← h.holder_get hx, hpc]) (hother := fun _ _ => .rfl)
      (hloser := (absurd · hnf)) (hidle := Pc.noConfusion)
  | bindTimeout p => exact h.ite fun hp => h.refuse hp

theorem lrun_inv (n : Nat) (evs : List LEv) : LockInv (lrun n evs) :=
  List.foldlRecOn evs lstep (lockInit_inv n) fun _ h e _ => lstep_inv h e

/-- **C14 (mutual exclusion).** For any number of invocations, any mix of the four APIs, any
interleaving of acquisitions, effects, exits and kills: at most one process is past lock
acquisition at any time. -/
theorem c14_mutex (n : Nat) (evs : List LEv) (p q : Nat)
    (hp : pcOf (lrun n evs) p = some .holding) (hq : pcOf (lrun n evs) q = some .holding) : p = q := by
  have inv := lrun_inv n evs
  exact Option.some.inj (((inv.holder p).mp hp).symm.trans ((inv.holder q).mp hq))

/-- **C14 (losers are clean).** An invocation whose acquisition was refused has performed no effect
— it started no executable and modified neither checkpoint nor results nor logs — and has exited
with the lock error status. -/
theorem c14_loser_clean (n : Nat) (evs : List LEv) (p : Nat) (x : LProc)
    (hx : (lrun n evs).procs[p]? = some x) (hf : x.lockFailed = true) :
    x.effects = 0 ∧ x.pc = .exited lockErrorRc :=
  (lrun_inv n evs).loser p x hx hf

/-- the lock error is the fatal exit status of the code -/
theorem c14_lock_rc : lockErrorRc = Consts.exitFatal := by decide

/-- **C14 (release).** When nobody is holding — in particular right after the holder exited or was
killed — the next invocation that tries acquires at once. -/
theorem c14_release (n : Nat) (evs : List LEv) (p : Nat)
    (hfree : ∀ q, pcOf (lrun n evs) q ≠ some .holding) (hp : pcOf (lrun n evs) p = some .start) :
    pcOf (lstep (lrun n evs) (.tryAcquire p)) p = some .holding := by
  obtain ⟨x, hx, -⟩ := pcOf_eq_some.mp hp
  have hs : lstep (lrun n evs) (.tryAcquire p) = _ := if_pos hp
  rewrite [hs, (lrun_inv n evs).lock_eq_none.mpr hfree]
  exact pcOf_setProc_self hx _ _

/-- after an exit or a kill of the holder nobody is holding -/
theorem c14_freed (n : Nat) (evs : List LEv) (p : Nat) (hp : pcOf (lrun n evs) p = some .holding) (rc : Nat) :
    (∀ q, pcOf (lstep (lrun n evs) (.finish p rc)) q ≠ some .holding) ∧
    (∀ q, pcOf (lstep (lrun n evs) (.kill p)) q ≠ some .holding) := by
  constructor
  · exact (lstep_inv (lrun_inv n evs) _).lock_eq_none.mp (congrArg LockSt.lock (if_pos hp))
  · exact (lstep_inv (lrun_inv n evs) _).lock_eq_none.mp (congrArg LockSt.lock (if_pos hp))

/-- **C14 (a bind that timed out is not an acquisition).** Whoever holds or not, an invocation whose
bind lost against its timer has exited with the lock error status without any effect, and the
holder - if there is one - still holds. -/
theorem c14_timeout (n : Nat) (evs : List LEv) (p : Nat)
    (hp : pcOf (lrun n evs) p = some .start) :
    let s' := lstep (lrun n evs) (.bindTimeout p)
    s'.lock = (lrun n evs).lock ∧ pcOf s' p = some (.exited lockErrorRc) ∧
    ∀ x, s'.procs[p]? = some x → x.effects = 0 := by
  obtain ⟨x, hx, hpc⟩ := pcOf_eq_some.mp hp
  have hs : lstep (lrun n evs) (.bindTimeout p) = _ := if_pos hp
  rewrite [hs]
  refine ⟨rfl, pcOf_setProc_self hx _ _, fun y hy => ?_⟩
  rewrite [getElem?_setProc_self hx] at hy
  cases hy
  exact (lrun_inv n evs).idle p x hx hpc

/-! ## Non-vacuity: three contenders, the holder is killed, the next one acquires -/
example :
    let s := lrun 4 [.tryAcquire 1, .effect 1, .tryAcquire 0, .tryAcquire 2, .effect 2, .kill 1, .tryAcquire 3]
    s.lock = some 3 ∧ (s.procs.map (·.pc)) = [.exited 2, .dead, .exited 2, .holding] ∧
    (s.procs.map (·.effects)) = [0, 1, 0, 0] := by decide +kernel

/-- a holder, one contender refused, one whose bind timed out, one timing out while nobody holds -/
example :
    let s := lrun 4 [.tryAcquire 0, .effect 0, .tryAcquire 1, .bindTimeout 2, .finish 0 0, .bindTimeout 3]
    s.lock = none ∧ (s.procs.map (·.pc)) = [.exited 0, .exited 2, .exited 2, .exited 2] ∧
    (s.procs.map (·.effects)) = [1, 0, 0, 0] := by decide +kernel

end Monorail
