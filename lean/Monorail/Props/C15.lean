import Monorail.Proofs.Log
/-!
# C15 — log streaming never affects the outcome of a run
-/
namespace Monorail

/-- **C15 (non-interference).** For every sequence of chunks, ticks, end of stream or cancellation:
whether a listener is attached or not, and whichever of its writes fail (`ok`, `ok'` arbitrary), the
requests sent to the compressor — hence the stored log — and the reader's result — hence the task
status and the run's exit status — are identical. Only what the listener receives varies. -/
theorem c15_noninterference (ok ok' : Nat → Bool) (client client' : Bool) (evs : List REv) :
    (rrun ok client evs).out = (rrun ok' client' evs).out ∧
    (rrun ok client evs).done = (rrun ok' client' evs).done := by
  have h := rrun_core ok ok' client client' evs
  exact ⟨congrArg (·.2.2.1) h, congrArg (·.2.2.2) h⟩

/-- a listener whose n-th write fails is dropped; later flushes do not write to it -/
theorem c15_drop (ok : Nat → Bool) (s : RSt) (hc : s.client = true) (hl : s.lines ≠ [])
    (hfail : ok s.writes = false) : (flush ok s).client = false ∧ (flush ok s).blocks = s.blocks := by
  simp [flush, hl, hc, hfail]

/-! ## Non-vacuity: the listener dies at its second write; stored bytes are unaffected -/
example :
    let evs := [REv.chunk [97, 10], .tick, .chunk [98, 10], .tick, .chunk [99, 10], .eof]
    (rrun (fun n => n < 1) true evs).out = (rrun (fun _ => true) false evs).out ∧
    (rrun (fun n => n < 1) true evs).blocks = [[[97, 10]]] ∧
    (rrun (fun n => n < 1) true evs).done = some true := by decide +kernel

end Monorail
