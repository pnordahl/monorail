import Monorail.Proofs.ExecInv
/-!
# C16 — all members of a target group execute concurrently
-/
namespace Monorail

/-- **C16 (no completion is consumed while a group is being started).** Under every schedule,
between two spawns of the same group the history contains nothing but spawns of that group: the
machine never waits for a member to finish before starting another member. -/
theorem c16_contiguous (fou : Bool) (plan : List Group) (inputs : List (Nat × Outcome))
    {pre mid post : List Ev} {g a b : Nat}
    (h : (runExec fou plan inputs).trace = pre ++ Ev.spawn g a :: (mid ++ Ev.spawn g b :: post)) :
    ∀ e ∈ mid, ∃ c, e = Ev.spawn g c :=
  (runExec_inv fou plan inputs).contig pre g a mid b post h

/-- a group every member of which resolves to an executable (or is undefined without
`--fail-on-undefined`) -/
def Startable (fou : Bool) (g : Group) : Prop :=
  ∀ t ∈ g, t.disp = .run ∨ (t.disp = .undefined ∧ fou = false)

def runIds (g : Group) : List Nat := (g.filter (fun t => t.disp = .run)).map (·.id)

/-- **C16 (every member is started).** When a startable group is reached and nothing has failed,
scheduling it starts *every* member that has an executable — for any group size. -/
theorem c16_sched_all (fou : Bool) (g : Group) (hs : Startable fou g) :
    (schedGroup fou false g).spawns = runIds g ∧ (schedGroup fou false g).failed = false := by
  have r := schedGroup_spec fou false g
  have hf : (schedGroup fou false g).failed = false := by
    refine Bool.eq_false_iff.mpr fun hfa => ?_
    obtain ⟨e, he, hfe⟩ := (r.failed_iff.mp hfa).resolve_left Bool.false_ne_true
    obtain ⟨t, ht, _, hok⟩ := r.entry e he
    have : isFailure fou e.2 = false := by
      rcases hs t ht with hd | ⟨hd, hfou⟩
      · exact hok.not_failure (by simp [hd]) (by simp [hd])
      · exact hok.not_failure (by simp [hd]) fun _ => hfou
    exact absurd (this.symm.trans hfe) Bool.false_ne_true
  exact ⟨r.started hf, hf⟩

/-- reaching a startable group with nothing failed, `advance` stops there and starts all its
executable members -/
theorem advance_startable (fou : Bool) {g : Group} (rest : List Group) (gi : Nat)
    (hs : Startable fou g) (hne : runIds g ≠ []) :
    advance fou (g :: rest) gi false =
      ⟨runIds g, (schedGroup fou false g).results, false, rest, gi⟩ := by
  obtain ⟨h1, h2⟩ := c16_sched_all fou g hs
  unfold advance
  rw [if_neg (mt List.isEmpty_iff.mp (h1 ▸ hne)), h1, h2]

/-- **C16 (first group).** `run` starts every executable member of the first group before it
consumes any completion. -/
theorem c16_start (fou : Bool) (g : Group) (rest : List Group) (hs : Startable fou g)
    (hne : runIds g ≠ []) :
    (startExec fou (g :: rest)).trace = (runIds g).map (Ev.spawn 0) ∧
    (startExec fou (g :: rest)).running = runIds g := by
  unfold startExec
  rewrite [advance_startable fou rest 0 hs hne]
  exact ⟨rfl, rfl⟩

/-- **C16 (any later position).** When the last running task of a group completes successfully and
nothing has failed, every executable member of the next (startable) group is started in that same
step — wherever the group sits in the plan. -/
theorem c16_step (fou : Bool) (s : ExecSt) (id : Nat) (g : Group) (rest : List Group)
    (hrun : s.running = [id]) (hrest : s.rest = g :: rest) (hf : s.failed = false)
    (hs : Startable fou g) (hne : runIds g ≠ []) :
    (stepExec fou s id (.code 0)).running = runIds g ∧
    (stepExec fou s id (.code 0)).trace =
      s.trace ++ [Ev.done id (.code 0)] ++ (runIds g).map (Ev.spawn (s.gidx + 1)) := by
  simp [stepExec, hrun, hrest, hf, Outcome.fails, advance_startable fou rest _ hs hne]

/-! ## Non-vacuity: a group of 40 executables, reached after one dependency group -/

def bigGroup : Group := (List.range 40).map (fun i => ⟨i + 1, .run⟩)

example : (stepExec false (startExec false [[⟨0, .run⟩], bigGroup]) 0 (.code 0)).running.length = 40 := by
  decide +kernel

end Monorail
