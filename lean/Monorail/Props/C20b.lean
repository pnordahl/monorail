import Monorail.Props.C20
import Monorail.Model.Task
/-!
# C20 for a whole task: both readers, every schedule, cancellation at any point

Only property theorems and their non-vacuity examples live in this file.
-/
namespace Monorail

/-- **Task composition (repaired `run_task`).** Under every schedule of the two readers' events -
chunks, flush ticks, end of stream and cancellation arriving at each reader at any position - each
reader ends exactly as it would have run alone on its own events: neither an error nor the
completion of one reader can cut the other short. -/
theorem c20_task_independent (ok : Nat → Bool) (co ce : Bool) (evs : List (Side × REv)) :
    (trun ok co ce evs).o = rrun ok co (eventsOf .out evs) ∧
    (trun ok co ce evs).e = rrun ok ce (eventsOf .err evs) := by
  unfold trun rrun eventsOf
  simp only [List.foldl_map, List.foldl_filter]
  -- projecting to one reader commutes with a step: the step of the other side leaves it alone
  refine ⟨(List.foldl_hom TaskSt.o ?_).symm, (List.foldl_hom TaskSt.e ?_).symm⟩ <;>
    rintro s ⟨sd, ev⟩ <;> cases sd <;> rfl

/-- **C20 for a task.** With a listener that never fails, under every schedule and wherever the
cancellation falls, what each of the two readers has streamed is block for block what it has handed
to the compressor: every stored line of a cancelled task also reached the listener. -/
theorem c20_task_blocks (evs : List (Side × REv)) :
    (trun (fun _ => true) true true evs).o.blocks = payloads (trun (fun _ => true) true true evs).o.out ∧
    (trun (fun _ => true) true true evs).e.blocks = payloads (trun (fun _ => true) true true evs).e.out := by
  obtain ⟨ho, he⟩ := c20_task_independent (fun _ => true) true true evs
  rewrite [ho, he]
  exact ⟨c20_blocks _, c20_blocks _⟩

/-! ## Non-vacuity and the legacy counter-example (defect D12) -/

/-- stderr has a complete line pending and stdout half a line when both are cancelled, stdout first -/
def exSched : List (Side × REv) :=
  [(.err, .chunk [101, 10]), (.out, .chunk [111]), (.out, .cancel), (.err, .cancel)]

example :
    let s := trun (fun _ => true) true true exSched
    s.o.blocks = [[[111]]] ∧ s.e.blocks = [[[101, 10]]] ∧
    dataBytes s.o.out = [111] ∧ dataBytes s.e.out = [101, 10] ∧ s.o.done = some false ∧ s.e.done = some false := by
  decide +kernel

/-- LEGACY `try_join!` of the three futures: stdout's error drops the stderr reader in the middle of
its final flush - the line is stored, the listener never sees it -/
example :
    let s := trunLegacy (fun _ => true) true true exSched
    dataBytes s.e.out = [101, 10] ∧ s.e.blocks = [] ∧ s.e.blocks ≠ payloads s.e.out := by
  decide +kernel

end Monorail
