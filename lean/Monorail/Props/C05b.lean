import Monorail.Props.C05
import Monorail.Props.C04b
/-!
# C05 — the run covers exactly the selected targets, from the selection to the result document
-/
namespace Monorail

/-- **C05 (which targets are selected).** The groups `handle_run` selects contain exactly:
without `-t`, the configured targets among those `analyze` reported as changed; with `-t`, the named
targets; with `-t --deps`, everything reachable from the named targets along dependencies. -/
theorem c05_selected {g : Graph} (hr : InRange g) {sel : Selection} {groups : List (List Nat)}
    (hsel : selectGroups g sel = .ok groups) (x : Nat) :
    x ∈ groups.flatten ↔
      match sel with
      | .changed ch => x < g.size ∧ x ∈ ch
      | .named ts => x ∈ ts
      | .deps roots => ∃ r ∈ roots, r < g.size ∧ Reach g r x := by
  cases sel with
  | changed ch =>
    obtain ⟨lgs, hl, rfl⟩ := selectGroups_changed hsel
    simp only [c03_prune_mem, (labeled_flatten_perm hl).mem_iff, List.contains_iff_mem]
    exact and_congr_left' ⟨closure_lt g _ x, fun hx =>
      (mem_closure g hr _ x).mpr ⟨x, List.mem_range.mpr hx, hx, .refl⟩⟩
  | named ts =>
    cases hsel
    rw [flatten_singletons]
  | deps roots =>
    have hl : labeledGroups g roots = .ok groups := hsel
    exact (labeled_flatten_perm hl).mem_iff.trans (mem_closure g hr roots x)

/-- **C05 (the plan is commands × selected targets).** -/
theorem c05_plan_ids (n ncmd : Nat) (disp : Nat → Nat → Disp) (groups : List (List Nat)) (id : Nat) :
    id ∈ planIds (planOf n ncmd disp groups) ↔ ∃ c < ncmd, ∃ t ∈ groups.flatten, id = taskId n c t := by
  simp only [planIds_planOf, List.mem_flatMap, List.mem_range, List.mem_map, eq_comm]

/-- **C05 (from the selection to the result document).** When the run has finished, the result
document has exactly one entry for every (command, selected target) pair and no other entry. -/
theorem c05_document {g : Graph} {sel : Selection} {groups : List (List Nat)}
    (hsel : selectGroups g sel = .ok groups)
    (hnamed : ∀ ts, sel = .named ts → ts.Nodup ∧ ∀ t ∈ ts, t < g.size)
    (ncmd : Nat) (disp : Nat → Nat → Disp) (fou : Bool) (inputs : List (Nat × Outcome))
    (hfin : (runExec fou (planOf g.size ncmd disp groups) inputs).running = []) :
    (rIds (runExec fou (planOf g.size ncmd disp groups) inputs).results).Nodup ∧
    ∀ id, id ∈ rIds (runExec fou (planOf g.size ncmd disp groups) inputs).results ↔
      ∃ c < ncmd, ∃ t ∈ groups.flatten, id = taskId g.size c t := by
  have hw := selectGroups_wellformed hsel hnamed
  have hnd := planIds_nodup g.size disp groups hw.1 hw.2 ncmd
  have hperm := c05_cover fou _ inputs hfin
  exact ⟨hperm.nodup_iff.mpr hnd, fun id => hperm.mem_iff.trans (c05_plan_ids ..)⟩

end Monorail
