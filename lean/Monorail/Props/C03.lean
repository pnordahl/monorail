import Monorail.Proofs.Graph
import Monorail.Props.C10
import Monorail.Proofs.Kahn
/-!
# C03 — target groups are a valid dependency layering of every acyclic graph (graph level)

`groups g roots` is the model of `Dag::get_groups` after `set_subtree_visibility` from every root;
`labeledGroups` is the order every API shows (dependencies first). The theorems hold for every
graph of any size, every root set and every `changed` predicate.
-/
namespace Monorail

/-- no visible node lies on a cycle -/
def AcyclicOn (g : Graph) (vis : List Nat) : Prop := ∀ v ∈ vis, ¬ Reach1 g v v

/-- **C03 (succeeds).** If no visible node lies on a cycle, grouping succeeds. -/
theorem c03_succeeds (g : Graph) (roots : List Nat) (h : AcyclicOn g (closure g roots)) :
    ∃ gs, groups g roots = .ok gs :=
  ⟨_, groups_ok_iff.mpr ⟨complete_of_noCycle g _ h, rfl⟩⟩

/-- **C03 (partition).** The groups contain exactly the requested nodes — the dependency closure of
the roots — each exactly once. -/
theorem c03_partition {g : Graph} {roots : List Nat} {gs : List (List Nat)}
    (h : groups g roots = .ok gs) : gs.flatten.Perm (closure g roots) := by
  obtain ⟨hl, rfl⟩ := groups_ok_iff.mp h
  simpa [hl] using layers_perm g (closure g roots)

theorem c03_nodup {g : Graph} {roots : List Nat} {gs : List (List Nat)}
    (h : groups g roots = .ok gs) : gs.flatten.Nodup :=
  (c03_partition h).nodup_iff.mpr (closure_nodup g roots)

theorem c03_mem {g : Graph} (hr : InRange g) {roots : List Nat} {gs : List (List Nat)}
    (h : groups g roots = .ok gs) (x : Nat) :
    x ∈ gs.flatten ↔ ∃ r ∈ roots, r < g.size ∧ Reach g r x := by
  rw [(c03_partition h).mem_iff, mem_closure g hr]

/-- **C03 (no empty group).** -/
theorem c03_nonempty {g : Graph} {roots : List Nat} {gs : List (List Nat)}
    (h : groups g roots = .ok gs) : ∀ l ∈ gs, l ≠ [] := by
  obtain ⟨-, rfl⟩ := groups_ok_iff.mp h
  exact layersAux_nonempty g _ _

/-- in `get_groups` order (dependents first) every requested node is in a strictly earlier group than
everything it depends on -/
theorem groups_order {g : Graph} (hr : InRange g) {roots : List Nat} {gs : List (List Nat)}
    (h : groups g roots = .ok gs) {u v : Nat} (hu : u ∈ closure g roots) (huv : v ∈ g.out u) :
    Before gs u v := by
  have hv := (c03_partition h).mem_iff.mpr (closure_closed g hr roots u hu v huv)
  obtain ⟨-, rfl⟩ := groups_ok_iff.mp h
  exact layersAux_order g _ _ hu huv hv

theorem labeled_flatten_perm {g : Graph} {roots : List Nat} {lgs : List (List Nat)}
    (h : labeledGroups g roots = .ok lgs) : lgs.flatten.Perm (closure g roots) := by
  obtain ⟨gs, hg, rfl⟩ := labeledGroups_ok_iff.mp h
  exact (List.reverse_perm gs).flatten.trans (c03_partition hg)

/-- **C03 (order).** In the order every API shows (dependencies first), each requested target is in
a strictly later group than every target it depends on. -/
theorem c03_order {g : Graph} (hr : InRange g) {roots : List Nat} {lgs : List (List Nat)}
    (h : labeledGroups g roots = .ok lgs) {u v : Nat} (hu : u ∈ closure g roots)
    (huv : v ∈ g.out u) : Before lgs v u := by
  obtain ⟨gs, hg, rfl⟩ := labeledGroups_ok_iff.mp h
  exact before_reverse (groups_order hr hg hu huv)

theorem prune_append (c : Nat → Bool) (a b : List (List Nat)) :
    prune c (a ++ b) = prune c a ++ prune c b := by
  simp only [prune, List.map_append, List.filter_append]

theorem prune_flatten (c : Nat → Bool) (gs : List (List Nat)) :
    (prune c gs).flatten = gs.flatten.filter c := by
  rw [prune, List.flatten_filter_not_isEmpty, List.filter_flatten]

/-- **C03 (pruning).** Pruning to the changed targets keeps exactly the changed members … -/
theorem c03_prune_mem (c : Nat → Bool) (gs : List (List Nat)) (x : Nat) :
    x ∈ (prune c gs).flatten ↔ x ∈ gs.flatten ∧ c x = true := by
  rw [prune_flatten, List.mem_filter]

/-- … leaves no empty group … -/
theorem c03_prune_nonempty (c : Nat → Bool) (gs : List (List Nat)) : ∀ l ∈ prune c gs, l ≠ [] :=
  fun _ hl => List.isEmpty_eq_false_iff.mp ((Bool.not_eq_true' _).mp (List.mem_filter.mp hl).2)

/-- … and keeps every changed target after every changed target it depends on. -/
theorem c03_prune_order (c : Nat → Bool) {gs : List (List Nat)} {a b : Nat}
    (h : Before gs b a) (ha : c a = true) (hb : c b = true) : Before (prune c gs) b a := by
  obtain ⟨l₁, l₂, rfl, hb', ha'⟩ := before_iff_cut.mp h
  exact before_iff_cut.mpr ⟨_, _, prune_append c l₁ l₂, (c03_prune_mem c l₁ b).mpr ⟨hb', hb⟩,
    (c03_prune_mem c l₂ a).mpr ⟨ha', ha⟩⟩

/-! ## Non-vacuity: a diamond with a redundant transitive edge, made visible from one root -/

/-- 0 → {1,2,3}, 1 → 3, 2 → 3, node 4 isolated and not requested -/
def exDiamond : Graph := ⟨[[1, 2, 3], [3], [3], [], []]⟩

example : labeledGroups exDiamond [0] = .ok [[3], [1, 2], [0]] := by decide +kernel
example : closure exDiamond [0] = [0, 1, 2, 3] := by decide +kernel


/-! ## Lifted to configurations through C10's characterisation of the edges -/

/-- the graph `Index::new` builds -/
def graphOf (cfg : Config) : Graph := ⟨adjacency cfg⟩

theorem graphOf_size (cfg : Config) : (graphOf cfg).size = cfg.length := by
  simp [graphOf, Graph.size, adjacency]

theorem graphOf_out (cfg : Config) (i : Nat) : (graphOf cfg).out i = deps cfg i := by
  rewrite [graphOf, Graph.out, adjacency, List.getD_eq_getElem?_getD, List.getElem?_map]
  by_cases hi : i < cfg.length
  · rewrite [List.getElem?_range hi]
    rfl
  · have hi := Nat.le_of_not_lt hi
    rewrite [List.getElem?_eq_none (List.length_range.trans_le hi), deps, List.getElem?_eq_none hi]
    rfl

/-- every edge `Index::new` records points at a configured target, whatever the configuration -/
theorem inRange_graphOf (cfg : Config) : InRange (graphOf cfg) :=
  fun u _ hv => graphOf_size cfg ▸ deps_lt (graphOf_out cfg u ▸ hv)

theorem graphOf_inRange_dir {cfg : Config} (hwf : WFD cfg) : InRange (graphOf cfg) :=
  inRange_graphOf cfg

theorem graphOf_inRange {cfg : Config} (hwf : WF cfg) : InRange (graphOf cfg) :=
  inRange_graphOf cfg

/-- **C03 (configurations, trailing separators).** For every configuration whose target paths name
pairwise different normal directories, each written with or without one trailing separator, and
whatever roots were requested: if grouping succeeds then every requested target `T` is in a strictly
later group than every other configured target `U` it depends on (`U`'s directory encloses `T`'s,
or equals or encloses one of `T`'s `uses` entries). -/
theorem c03_index_order_dir {cfg : Config} (hwf : WFD cfg) {roots : List Nat} {lgs : List (List Nat)}
    (h : labeledGroups (graphOf cfg) roots = .ok lgs) {i j : Nat} {T U : Target}
    (hT : cfg[i]? = some T) (hU : cfg[j]? = some U) (hne : j ≠ i) (hd : DependsOnD T U)
    (hi : i ∈ closure (graphOf cfg) roots) : Before lgs j i := by
  apply c03_order (inRange_graphOf cfg) h hi
  rewrite [graphOf_out]
  exact (c10_deps_iff_dir hwf hT j).mpr ⟨U, hU, hne, hd⟩

/-- **C03 (configurations).** For every well-formed configuration, whatever roots were requested:
if grouping succeeds then every requested target `T` is in a strictly later group than every other
configured target `U` it depends on (U encloses T, or T uses a path inside/equal to U). -/
theorem c03_index_order {cfg : Config} (hwf : WF cfg) {roots : List Nat} {lgs : List (List Nat)}
    (h : labeledGroups (graphOf cfg) roots = .ok lgs) {i j : Nat} {T U : Target}
    (hT : cfg[i]? = some T) (hU : cfg[j]? = some U) (hne : j ≠ i) (hd : DependsOn T U)
    (hi : i ∈ closure (graphOf cfg) roots) : Before lgs j i :=
  c03_index_order_dir hwf.toWFD h hT hU hne
    ((dependsOnD_normal (hwf.normal T (List.mem_of_getElem? hT))
      (hwf.normal U (List.mem_of_getElem? hU))).mpr hd) hi

/-- **C03 (configurations, succeeds).** An acyclic well-formed configuration is always grouped,
for every root set, and the groups partition exactly the dependency closure of the roots. -/
theorem c03_index_succeeds {cfg : Config} (roots : List Nat)
    (hac : ∀ v, ¬ Reach1 (graphOf cfg) v v) :
    ∃ lgs, labeledGroups (graphOf cfg) roots = .ok lgs ∧
      lgs.flatten.Perm (closure (graphOf cfg) roots) := by
  obtain ⟨gs, hgs⟩ := c03_succeeds (graphOf cfg) roots fun v _ => hac v
  have h := labeledGroups_ok_iff.mpr ⟨gs, hgs, rfl⟩
  exact ⟨_, h, labeled_flatten_perm h⟩


/-! ## The concrete counter / queue loop of `get_groups` (refinement, `Proofs/Kahn.lean`) -/

/-- **C03 (the loop of the code).** The counter / queue loop succeeds on the dependency closure of
the roots exactly when the abstract layering does; its groups are a permutation of the closure and
every requested node is in a strictly earlier group (dependents first, as `get_groups` returns them)
than everything it depends on. -/
theorem c03_kahn {g : Graph} (hr : InRange g) (roots : List Nat) (cs : List (List Nat))
    (h : kahn g (closure g roots) = .ok cs) :
    cs.flatten.Perm (closure g roots) ∧
    ∀ u ∈ closure g roots, ∀ v ∈ g.out u, Before cs u v := by
  obtain ⟨gs, hgs, hsame⟩ := (kahn_groups g roots).2 cs h
  exact ⟨(sameLayers_flatten hsame).trans (c03_partition hgs),
    fun u hu v hv => sameLayers_before hsame (groups_order hr hgs hu hv)⟩

end Monorail
