import Monorail.Proofs.Git
/-!
# C02 — the reported change set is exactly the difference from the checkpoint

Over the abstract git repository of `Model/Git.lean`, for every repository reachable by any
history of create / edit / delete / move / stage / commit operations (`history_inv`).
-/
namespace Monorail

/-- a path is subtracted when its recorded pending digest equals the digest of what is on disk now
(a missing file has the empty digest) -/
def PendingMatch (r : GitRepo) (ck : Checkpoint) (p : Path) : Prop :=
  ∃ m, ck.pending = some m ∧ m ≠ [] ∧ pendingLookup m p = some (r.digest p)

theorem mem_pendingFilter (r : GitRepo) (ck : Checkpoint) (all : List Path) (p : Path) :
    p ∈ r.pendingFilter ck all ↔ p ∈ all ∧ ¬ PendingMatch r ck p := by
  unfold PendingMatch GitRepo.pendingFilter
  cases ck.pending with
  | none => exact (and_iff_left nofun).symm
  | some m =>
    simp only [Option.some.injEq, exists_eq_left', List.isEmpty_iff]
    by_cases h : m = []
    · rewrite [if_pos h]
      exact (and_iff_left fun h' => h'.1 h).symm
    · rw [if_neg h, List.mem_filter, bne_iff_ne, and_iff_right h]

theorem mem_changes (r : GitRepo) (ck : Checkpoint) (b e : Option Nat) (p : Path) :
    p ∈ r.changes ck b e ↔ (p ∈ r.diffChanges ck b e ∨ p ∈ r.untracked) ∧ ¬ PendingMatch r ck p := by
  rw [GitRepo.changes, mem_sortPaths, mem_pendingFilter, List.mem_append, or_comm]

/-- **C02 (working tree against the checkpoint commit).** With a checkpoint `(c, pending)` and no
`--begin` or `--end`, a path is reported exactly when
* git knows it (it is in the index or in commit `c`) and what the working tree holds for it differs
  from commit `c` — created, modified or deleted; a moved file is a deletion of the old path and a
  creation of the new one, because both paths differ — or it is untracked and not ignored,
* and its current digest is not the one recorded for it in the checkpoint's pending map. -/
theorem c02_set {r : GitRepo} (h : GitInv r) (ck : Checkpoint) (c : Nat) (hc : ck.id = some c) (p : Path) :
    p ∈ r.changes ck none none ↔
      ((((r.index p).isSome ∨ (r.tree c p).isSome) ∧ r.workView p ≠ r.tree c p) ∨
        ((r.work p).isSome ∧ (r.index p).isNone ∧ r.ignored p = false)) ∧
      ¬ PendingMatch r ck p := by
  rw [mem_changes, mem_untracked h, ← mem_diffWork h, GitRepo.diffChanges, hc]

/-- **C02 (explicit range).** With `--begin a --end b` the tracked part is the difference between
those two commits. -/
theorem c02_range {r : GitRepo} (h : GitInv r) (ck : Checkpoint) (a b : Nat) (p : Path) :
    p ∈ r.changes ck (some a) (some b) ↔
      (r.tree a p ≠ r.tree b p ∨ ((r.work p).isSome ∧ (r.index p).isNone ∧ r.ignored p = false)) ∧
      ¬ PendingMatch r ck p := by
  rewrite [mem_changes, mem_untracked h, ← mem_diffCommits h]
  rfl

/-- **C02 (sorted).** The report is in byte order. -/
theorem c02_sorted (r : GitRepo) (ck : Checkpoint) (b e : Option Nat) :
    (r.changes ck b e).Pairwise pathLe := by
  unfold GitRepo.changes
  exact sortPaths_sorted _

/-- **C02 (argument table).** Which diff is taken: `--begin` wins over the checkpoint id; `--end`
is honoured only together with a begin; with neither a begin nor a checkpoint id the working tree is
compared with HEAD. -/
theorem c02_args (r : GitRepo) (ck : Checkpoint) (b e : Option Nat) :
    r.diffChanges ck b e =
      match (match b with | some x => some x | none => ck.id), e with
      | some a, some e' => r.diffCommits a e'
      | some a, none => r.diffWork a
      | none, _ => r.diffWork r.head := by
  rcases ck with ⟨_ | c, _⟩ <;> cases b <;> cases e <;> rfl

/-! ### verbatim names: the NUL-separated output of `git … -z` parses back to the names -/

/-- `parse_nul_separated_changes`: split on NUL, drop empty pieces -/
def splitNul : List Nat → List (List Nat)
  | [] => []
  | b :: bs =>
    if b = 0 then splitNul bs
    else match splitNul bs, bs with
      | rest, [] => [b] :: rest
      | rest, c :: _ => if c = 0 then [b] :: rest else
        match rest with
        | [] => [[b]]
        | l :: ls => (b :: l) :: ls

def joinNul (names : List (List Nat)) : List Nat := names.flatMap (fun n => n ++ [0])

theorem joinNul_cons (n : List Nat) (names : List (List Nat)) :
    joinNul (n :: names) = n ++ 0 :: joinNul names :=
  List.flatMap_cons.trans (List.append_assoc ..)

theorem splitNul_append_nul {n : List Nat} (hne : n ≠ []) (h0 : 0 ∉ n) (rest : List Nat) :
    splitNul (n ++ 0 :: rest) = n :: splitNul rest := by
  induction n with
  | nil => exact absurd rfl hne
  | cons b bs ih =>
    rw [List.mem_cons, not_or] at h0
    have hb : b ≠ 0 := Ne.symm h0.1
    cases bs with
    | nil => simp [splitNul, hb]
    | cons c cs =>
      have hc : c ≠ 0 := fun e => h0.2 (e ▸ List.mem_cons_self)
      rw [List.cons_append, List.cons_append, splitNul, if_neg hb, if_neg hc, ← List.cons_append,
        ih (List.cons_ne_nil c cs) h0.2]

/-- **C02 (verbatim).** Names are passed through byte for byte: what git writes with `-z` for any
list of non-empty names without NUL parses back to exactly those names (no quoting, no escaping). -/
theorem c02_verbatim (names : List (List Nat)) (h : ∀ n ∈ names, n ≠ [] ∧ 0 ∉ n) :
    splitNul (joinNul names) = names := by
  induction names with
  | nil => rfl
  | cons n rest ih =>
    have hn := h n List.mem_cons_self
    rw [joinNul_cons, splitNul_append_nul hn.1 hn.2, ih fun x hx => h x (List.mem_cons_of_mem _ hx)]

/-! ## Non-vacuity: a move, an untracked file, an ignored file, a pending digest -/

def exRepo : GitRepo :=
  [GitOp.write [97] 1, .write [98] 2, .addAll, .commit, .move [97] [99], .write [100] 4, .write [120] 5].foldl
    applyGit (GitRepo.empty (fun p => p = [120]))

-- commit 1 holds a,b ; then a moved to c, d created, x created but ignored
example : exRepo.changes { id := some 1, pending := none } none none = [[97], [99], [100]] := by decide +kernel
example : exRepo.changes { id := some 1, pending := some [([99], some 1)] } none none = [[97], [100]] := by decide +kernel
example : GitInv exRepo := history_inv _ _

end Monorail
