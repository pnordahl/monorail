import Monorail.Props.C05
import Monorail.Props.C06
/-!
# C05 / C06 — the oracle applied to observed runs accepts every run of the model

The correspondence harness judges the implementation's result document with the decidable oracle of
`Spec/Exec.lean`. The oracle must not demand more than the proved model delivers: here, for every
plan with distinct ids and every schedule, the result document of a finished model run passes the
oracle's cover clause and its flag / exit-status clause.
-/
namespace Monorail

theorem countIn_eq_count (l : List Nat) (x : Nat) : countIn l x = l.count x :=
  List.countP_eq_length_filter.symm

theorem planIds_eq_flatten (plan : List Group) : planIds plan = (plan.flatten).map (·.id) :=
  List.map_flatten.symm

/-- **Oracle soundness (cover).** The result document of a finished model run has exactly one entry
per planned id and no other entry. -/
theorem oracle_cover_sound (fou : Bool) (plan : List Group) (hnd : (planIds plan).Nodup)
    (inputs : List (Nat × Outcome)) (hfin : (runExec fou plan inputs).running = [])
    (o : RunObs) (hres : o.results = (runExec fou plan inputs).results) :
    checkCover plan o = none := by
  have hperm := c05_cover fou plan inputs hfin
  unfold checkCover
  rw [← planIds_eq_flatten, hres, ← rIds, if_neg, if_neg]
  · rewrite [Bool.not_eq_true, List.any_eq_false]
    intro e he
    rewrite [List.contains_iff_mem.mpr (hperm.mem_iff.mp (List.mem_map_of_mem he))]
    decide
  · rewrite [Bool.not_eq_true, List.any_eq_false]
    intro i hi
    rewrite [countIn_eq_count, hperm.count_eq, List.count_eq_one_of_mem hnd hi]
    decide

theorem statusFor_iff {rs : List (Nat × Status)} (hnd : (rIds rs).Nodup) (i : Nat) (st : Status) :
    statusFor rs i = some st ↔ (i, st) ∈ rs := by
  unfold statusFor
  constructor
  · intro h
    obtain ⟨e, he, rfl⟩ := Option.map_eq_some_iff.mp h
    have hp := List.find?_some he
    rewrite [← (of_decide_eq_true hp : e.1 = i)]
    exact List.mem_of_find?_eq_some he
  · intro h
    cases hf : rs.find? (fun e => e.1 = i) with
    | none => exact (List.find?_eq_none.mp hf _ h (decide_eq_true rfl)).elim
    | some e =>
      have hp := List.find?_some hf
      rewrite [List.inj_on_of_nodup_map hnd (List.mem_of_find?_eq_some hf) h (of_decide_eq_true hp)]
      rfl

/-- **Oracle soundness (flag).** For a finished model run the `failed` flag is exactly what the
oracle computes from the result document: some planned task has a failing status. -/
theorem oracle_flag_sound (fou : Bool) (plan : List Group) (hnd : (planIds plan).Nodup)
    (inputs : List (Nat × Outcome)) (hfin : (runExec fou plan inputs).running = []) :
    (runExec fou plan inputs).failed =
      plan.any (fun g => g.any (fun t => match statusFor (runExec fou plan inputs).results t.id with
        | some st => isFailure fou st | none => false)) := by
  have hperm := c05_cover fou plan inputs hfin
  have hrn := c05_results_nodup fou plan hnd inputs
  have hfail := c06_failed_iff fou plan inputs
  rewrite [Bool.eq_iff_iff, hfail, List.any_eq_true]
  constructor
  · rintro ⟨e, he, hf⟩
    obtain ⟨g, hg, hidg⟩ := List.mem_flatMap.mp (hperm.mem_iff.mp (List.mem_map_of_mem he))
    obtain ⟨t, ht, hte⟩ := List.mem_map.mp hidg
    refine ⟨g, hg, List.any_eq_true.mpr ⟨t, ht, ?_⟩⟩
    rewrite [(statusFor_iff hrn t.id e.2).mpr (hte ▸ he)]
    exact hf
  · rintro ⟨g, _, hgany⟩
    obtain ⟨t, _, hst⟩ := List.any_eq_true.mp hgany
    cases hs : statusFor (runExec fou plan inputs).results t.id with
    | none => rewrite [hs] at hst; cases hst
    | some st =>
      rewrite [hs] at hst
      exact ⟨(t.id, st), (statusFor_iff hrn t.id st).mp hs, hst⟩

end Monorail
