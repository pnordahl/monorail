import Monorail.Proofs.Log
import Monorail.Generated.Consts
/-!
# C08 — stored logs are byte-exact and isolated per task
-/
namespace Monorail

/-- **C08 (reader).** For every sequence of write chunks and flush ticks — any chunking, ticks
anywhere, in particular in the middle of a line — followed by end of stream, with or without a
listener, whatever the listener does: the bytes the reader hands to the compressor are exactly the
bytes the process wrote, in order; `End` is sent exactly once, last; the reader reports success. -/
theorem c08_reader (ok : Nat → Bool) (client : Bool) (evs : List REv) (hopen : Open evs) :
    dataBytes (rrun ok client (evs ++ [.eof])).out = chunkBytes evs ∧
    (rrun ok client (evs ++ [.eof])).done = some true ∧
    ∃ pre, (rrun ok client (evs ++ [.eof])).out = pre ++ [.endReq] ∧ CReq.endReq ∉ pre := by
  obtain ⟨i1, i2, i3⟩ := open_inv ok evs hopen (RSt.init client) rfl
  unfold rrun
  rewrite [List.foldl_append, List.foldl_cons, List.foldl_nil, rstep_running ok _ .eof i1]
  refine ⟨(finish_bytes ..).trans i2, rfl, ?_⟩
  rewrite [finish_eq]
  exact ⟨_, rfl, mt (flush_endReq ok _).mp (i3 List.not_mem_nil)⟩

/-- **C08 (routing).** Distinct registrations never share a (thread, encoder) pair, for any positive
number of compressor threads — and the number the code uses today is positive. -/
theorem c08_route_injective (T : Nat) (_hT : 0 < T) (i j : Nat) (h : route T i = route T j) : i = j := by
  simp only [route, Prod.mk.injEq] at h
  rw [← Nat.div_add_mod i T, ← Nat.div_add_mod j T, h.1, h.2]

theorem c08_threads_pos : 0 < Consts.compressorThreads := by decide

/-- **C08 (per-file content, every interleaving).** Whatever the interleaving of the clients'
requests on a compressor thread's FIFO channel — all that is needed is that the requests of encoder
`e` appear in the order its reader sent them — the file of `e` receives exactly that reader's bytes
and nothing written by any other task. -/
theorem c08_files (reqs : List (Nat × CReq)) (e : Nat) (ok : Nat → Bool) (client : Bool)
    (evs : List REv) (hopen : Open evs)
    (hfifo : (reqs.filter (fun r => r.1 = e)).map (·.2) = (rrun ok client (evs ++ [.eof])).out) :
    fileOf reqs e = chunkBytes evs := by
  unfold fileOf
  rewrite [hfifo]
  exact (c08_reader ok client evs hopen).1

theorem consumed_append_shutdowns (reqs : List (Nat × CReq)) (tail : List TMsg) :
    consumed (reqs.map (fun r => TMsg.req r.1 r.2) ++ TMsg.shutdown :: tail) = reqs := by
  induction reqs with
  | nil => rfl
  | cons a t ih => exact congrArg (a :: ·) ih

/-- **C08 (shutdown never overtakes data).** A compressor thread leaves its loop at the first
`Shutdown` it receives and writes nothing that is queued behind it. The run sends the `Shutdown`s of a
group only after every task of the group has been joined, i.e. after every reader has queued its
last `Data` and its `End`; the channel is FIFO, so every request precedes the first `Shutdown`, and
then - whatever follows it on the channel - the file of every encoder holds exactly its reader's
bytes. -/
theorem c08_shutdown (reqs : List (Nat × CReq)) (tail : List TMsg) (e : Nat) (ok : Nat → Bool)
    (client : Bool) (evs : List REv) (hopen : Open evs)
    (hfifo : (reqs.filter (fun r => r.1 = e)).map (·.2) = (rrun ok client (evs ++ [.eof])).out) :
    threadFile (reqs.map (fun r => TMsg.req r.1 r.2) ++ TMsg.shutdown :: tail) e = chunkBytes evs := by
  unfold threadFile
  rewrite [consumed_append_shutdowns]
  exact c08_files reqs e ok client evs hopen hfifo

/-- a `Shutdown` (or any other early exit of the thread) ahead of queued data loses that data: the
stored log is a proper prefix of what was written -/
example : threadFile [.req 0 (.data [[97, 10]]), .shutdown, .req 0 (.data [[98, 10]]), .req 0 .endReq] 0 = [97, 10] := by decide +kernel

/-- **C08 (`log show`).** One header followed by the bytes, for every selected non-empty log. -/
theorem c08_show_cons (h l : Bytes) (rest : List (Bytes × Bytes)) :
    showLogs ((h, l) :: rest) = (if l.isEmpty then [] else h ++ l) ++ showLogs rest :=
  List.flatMap_cons

/-- the flush interval the code uses today is positive (regenerated from the source) -/
theorem c08_flush_pos : 0 < Consts.flushIntervalMs := by decide

/-! ## The unrepaired reader loses the start of a line that straddles a flush tick -/

-- "AAA", tick, "BBB\n", eof  : repaired stores AAABBB\n, legacy stores BBB\n
example : dataBytes (rrun (fun _ => true) false [.chunk [65,65,65], .tick, .chunk [66,66,66,10], .eof]).out
    = [65,65,65,66,66,66,10] := by decide +kernel
example : dataBytes (([REv.chunk [65,65,65], .tick, .chunk [66,66,66,10], .eof].foldl
    (rstepLegacy (fun _ => true)) (RSt.init false)).out) = [66,66,66,10] := by decide +kernel

/-! ## Non-vacuity: one-byte chunks, a tick inside a line, no trailing newline -/
example : Open [REv.chunk [104], .chunk [105], .tick, .chunk [10, 120], .tick, .tick, .chunk [121]] := by
  unfold Open
  decide +kernel

example : (rrun (fun _ => true) false
    [.chunk [104], .chunk [105], .tick, .chunk [10, 120], .tick, .tick, .chunk [121], .eof]).out
    = [.data [[104, 105, 10]], .data [[120, 121]], .endReq] := by decide +kernel

end Monorail
