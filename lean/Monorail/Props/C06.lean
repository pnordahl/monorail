import Monorail.Proofs.ExecInv
import Monorail.Generated.Consts
/-!
# C06 — failure stops the run; statuses, failed flag and exit code are truthful
-/
namespace Monorail

/-- **C06 (failed flag).** Under every schedule, `failed` is true exactly when the result document
contains a failure: an `error` entry, a `not_executable` entry, or (with `--fail-on-undefined`) an
`undefined` entry. -/
theorem c06_failed_iff (fou : Bool) (plan : List Group) (inputs : List (Nat × Outcome)) :
    (runExec fou plan inputs).failed = true ↔
      ∃ e ∈ (runExec fou plan inputs).results, isFailure fou e.2 = true :=
  (runExec_inv fou plan inputs).fail

/-- **C06 (exit status).** 1 when failed, 0 otherwise — the constants the code uses today. -/
theorem c06_exit (s : ExecSt) :
    exitStatus s = if s.failed then Consts.exitErr else Consts.exitOk := rfl

theorem stepExec_failed_mono (fou : Bool) (s : ExecSt) (id : Nat) (oc : Outcome)
    (hf : s.failed = true) : (stepExec fou s id oc).failed = true :=
  have hd : (doneSt s id oc).failed = true := Bool.or_eq_true_iff.mpr (.inl hf)
  stepExec_cases (P := fun s' => s'.failed = true) fou s id oc hf (fun _ _ => hd)
    fun _ _ => (advance_spec ..).failed_iff.mpr (.inl hd)

/-- **C06 (latch, one step).** Once the run has failed, no step ever starts another executable. -/
theorem c06_latch_step (fou : Bool) (s : ExecSt) (id : Nat) (oc : Outcome) (hf : s.failed = true) :
    spawnIds (stepExec fou s id oc).trace = spawnIds s.trace := by
  have hd : spawnIds (doneSt s id oc).trace = spawnIds s.trace :=
    (spawnIds_append _ _).trans (List.append_nil _)
  refine stepExec_cases (P := fun s' => spawnIds s'.trace = spawnIds s.trace) fou s id oc rfl
    (fun _ _ => hd) fun _ _ => ?_
  have := ((advance_spec fou (doneSt s id oc).rest ((doneSt s id oc).gidx + 1)
    (doneSt s id oc).failed).latch (Bool.or_eq_true_iff.mpr (.inl hf))).1
  simp only [advSt, this, List.map_nil, List.append_nil]
  exact hd

/-- **C06 (latch).** After the first failure — non-zero exit, missing execute permission, undefined
under `--fail-on-undefined`, or a task torn down — no executable of a later group or command is ever
started, whatever completions follow. -/
theorem c06_latch (fou : Bool) (plan : List Group) (inputs more : List (Nat × Outcome))
    (hf : (runExec fou plan inputs).failed = true) :
    spawnIds (runExec fou plan (inputs ++ more)).trace = spawnIds (runExec fou plan inputs).trace ∧
    (runExec fou plan (inputs ++ more)).failed = true := by
  unfold runExec at hf ⊢
  rewrite [List.foldl_append]
  generalize inputs.foldl (fun s io => stepExec fou s io.1 io.2) (startExec fou plan) = s at hf ⊢
  exact List.foldlRecOn (motive := fun s' => spawnIds s'.trace = spawnIds s.trace ∧ s'.failed = true)
    more _ ⟨rfl, hf⟩ fun s' h io _ =>
      ⟨(c06_latch_step fou s' io.1 io.2 h.2).trans h.1, stepExec_failed_mono fou s' io.1 io.2 h.2⟩

/-- **C06 (later entries are `skipped`).** Whatever is scheduled after a failure is recorded as
`skipped`, and nothing of it is started. -/
theorem c06_skipped_after_failure (fou : Bool) (rest : List Group) (gi : Nat) :
    (advance fou rest gi true).spawns = [] ∧ ∀ e ∈ (advance fou rest gi true).results, e.2 = .skipped :=
  (advance_spec fou rest gi true).latch rfl

/-- **C06 (truthful entries, spawned side).** A `success` entry means the process completed with
exit code 0; an `error` entry carrying a code means it exited with exactly that (non-zero) code. -/
theorem c06_truth (fou : Bool) (plan : List Group) (inputs : List (Nat × Outcome)) {i : Nat} {st : Status}
    (h : (i, st) ∈ (runExec fou plan inputs).results) :
    (st = .success → Ev.done i (.code 0) ∈ (runExec fou plan inputs).trace) ∧
    (∀ k, st = .error (some k) → k ≠ 0 ∧ Ev.done i (.code k) ∈ (runExec fou plan inputs).trace) :=
  have t := (runExec_inv fou plan inputs).truth (i, st) h
  ⟨t.1, t.2.1⟩

/-- **C06 (truthful entries, never-started side).** When the (command, target) pairs of the plan
are distinct: an `undefined`, `not_executable` or `skipped` entry means no process was ever started
for that pair; and a `success` / `error` entry means one was. -/
theorem c06_never_started (fou : Bool) (plan : List Group) (hnd : (planIds plan).Nodup)
    (inputs : List (Nat × Outcome)) {i : Nat} {st : Status}
    (h : (i, st) ∈ (runExec fou plan inputs).results) (hst : isSpawnStatus st = false) :
    ∀ g, Ev.spawn g i ∉ (runExec fou plan inputs).trace := by
  intro g hg
  have inv := runExec_inv fou plan inputs
  obtain ⟨hres, _, hdisj⟩ := List.nodup_append.mp (inv.nodup hnd)
  -- `i` is spawned, so it is running or has an entry of a spawned task; both contradict distinctness
  rcases List.mem_append.mp (inv.spawned.mem_iff.mp (mem_spawnIds.mpr ⟨g, hg⟩)) with hr | hr
  · exact hdisj i (List.mem_map_of_mem h) i hr rfl
  · obtain ⟨e, he, hei⟩ := List.mem_map.mp hr
    obtain ⟨he1, he2⟩ := List.mem_filter.mp he
    rewrite [List.inj_on_of_nodup_map hres he1 h hei, hst] at he2
    cases he2

/-- **C06 (no failure, no flag).** If no command file lacks the execute permission, undefined
commands occur only without `--fail-on-undefined`, and every completion is an exit with status 0,
then under every schedule the run reports `failed = false` and exits 0. -/
theorem c06_success (fou : Bool) (plan : List Group)
    (hplan : ∀ g ∈ plan, ∀ t ∈ g, t.disp ≠ .notExec ∧ (t.disp = .undefined → fou = false))
    (inputs : List (Nat × Outcome)) (hin : ∀ io ∈ inputs, io.2 = .code 0) :
    (runExec fou plan inputs).failed = false ∧ exitStatus (runExec fou plan inputs) = 0 := by
  have hadv : ∀ (rest : List Group) (gi : Nat), (∀ g ∈ rest, g ∈ plan) →
      (advance fou rest gi false).failed = false := by
    intro rest gi hsub
    have a := advance_spec fou rest gi false
    refine Bool.eq_false_iff.mpr fun hfa => ?_
    obtain ⟨e, he, hfe⟩ := (a.failed_iff.mp hfa).resolve_left Bool.false_ne_true
    obtain ⟨g, hg, t, ht, _, hok⟩ := a.entry e he
    obtain ⟨hne, hund⟩ := hplan g (hsub g hg) t ht
    exact absurd ((hok.not_failure hne hund).symm.trans hfe) Bool.false_ne_true
  have key : ExecInv fou plan (runExec fou plan inputs) ∧ (runExec fou plan inputs).failed = false := by
    refine List.foldlRecOn (motive := fun s => ExecInv fou plan s ∧ s.failed = false) inputs _
      ⟨startExec_inv fou plan, hadv plan 0 fun g hg => hg⟩
      fun s hs io hio => ⟨stepExec_inv hs.1 io.1 io.2, ?_⟩
    have hd : (doneSt s io.1 (.code 0)).failed = false := Bool.or_eq_false_iff.mpr ⟨hs.2, rfl⟩
    rewrite [hin io hio]
    refine stepExec_cases (P := fun s' => s'.failed = false) fou s io.1 (.code 0) hs.2 (fun _ _ => hd)
      fun _ _ => ?_
    simp only [advSt, hd]
    exact hadv _ _ hs.1.sub
  exact ⟨key.2, if_neg (Bool.eq_false_iff.mp key.2)⟩

/-! ## Non-vacuity: a failure in the first group of the first command -/

example : let s := runExec false [[⟨0, .run⟩, ⟨1, .run⟩], [⟨2, .run⟩], [⟨3, .notExec⟩]] [(1, .code 7), (0, .code 0)]
    s.failed = true ∧ exitStatus s = 1 ∧
    s.results = [(1, .error (some 7)), (0, .success), (2, .skipped), (3, .skipped)] ∧
    spawnIds s.trace = [0, 1] := by decide +kernel

end Monorail
