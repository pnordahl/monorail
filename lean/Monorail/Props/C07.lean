import Monorail.Props.C02
import Monorail.Props.C01
/-!
# C07 — after `checkpoint update --pending` nothing is changed; later edits re-flag exactly
-/
namespace Monorail

theorem pendingLookup_map {f : Path → Option Blob} {l : List Path} {p : Path} {d : Option Blob} :
    pendingLookup (l.map fun q => (q, f q)) p = some d ↔ p ∈ l ∧ f p = d := by
  induction l with
  | nil => exact iff_of_false (Option.some_ne_none d).symm fun h => List.not_mem_nil h.1
  | cons a as ih =>
    rewrite [List.map_cons, pendingLookup, List.mem_cons]
    by_cases hap : a = p
    · rewrite [if_pos hap, hap, Option.some.injEq]
      exact (and_iff_right (.inl rfl)).symm
    · rw [if_neg hap, ih, or_iff_right (Ne.symm hap)]

theorem pendingChanges_eq (r : GitRepo) : r.pendingChanges = sortPaths (r.untracked ++ r.diffWork r.head) := by
  simp [GitRepo.pendingChanges, GitRepo.changes, GitRepo.pendingFilter, GitRepo.diffChanges]

theorem update_pending_eq (r : GitRepo) (old : Option Checkpoint) :
    (checkpointUpdate r old none true).pending =
      if r.pendingChanges = [] then (baseCk old).pending
      else some (r.pendingChanges.map fun p => (p, r.digest p)) := by
  unfold checkpointUpdate
  cases r.pendingChanges <;> rfl

/-- **C07 (fixpoint).** Whatever the state of the repository — committed, staged, unstaged,
untracked, deleted or moved files — and whatever checkpoint existed before: immediately after
`checkpoint update --pending` the change set is empty. -/
theorem c07_fixpoint (r : GitRepo) (old : Option Checkpoint) :
    r.changes (checkpointUpdate r old none true) none none = [] := by
  refine List.eq_nil_iff_forall_not_mem.mpr fun p hp => ?_
  rw [mem_changes] at hp
  -- `p` was pending at the update, which recorded its present digest
  have hpc : p ∈ r.pendingChanges := by
    rw [pendingChanges_eq, mem_sortPaths, List.mem_append]; exact hp.1.symm
  have hne := List.ne_nil_of_mem hpc
  exact hp.2 ⟨_, (update_pending_eq r old).trans (if_neg hne), fun e => hne (List.map_eq_nil_iff.mp e),
    pendingLookup_map.mpr ⟨hpc, rfl⟩⟩

/-- the update without `--id` records HEAD -/
theorem c07_records_head (r : GitRepo) (old : Option Checkpoint) (pending : Bool) :
    (checkpointUpdate r old none pending).id = some r.head := rfl

/-- **C07 (no targets, nothing to run).** With an empty change set `analyze` reports no target, for
every configuration and batch size — so `run` has nothing to execute. -/
theorem c07_no_targets (cfg : Config) (k : Nat) : (analyze cfg [] k).targets = [] := rfl

theorem changes_write_other {r : GitRepo} (h : GitInv r) {p q : Path} (b : Blob) (hq : q ≠ p)
    {ck : Checkpoint} {c : Nat} (hc : ck.id = some c) :
    q ∈ (applyGit r (.write p b)).changes ck none none ↔ q ∈ r.changes ck none none := by
  rewrite [c02_set (applyGit_inv h _) ck c hc, c02_set h ck c hc]
  unfold PendingMatch GitRepo.digest GitRepo.workView
  rewrite [show (applyGit r (.write p b)).work q = r.work q from treeSet_ne hq]
  -- a write touches only `known` and the working tree at `p`: the other fields agree by unfolding
  exact Iff.rfl

/-- **C07 (re-flag exactly).** After `update --pending` at repository `r`, let a file `p` be created
or changed to content `b` it never had — different from what HEAD holds for `p`, from what is on
disk now, and from any digest a retained pending map records for `p` — `p` not being an ignored
untracked file. Then exactly `p` is reported: a path `q` is in the change set iff `q = p`. -/
theorem c07_reflag {r : GitRepo} (h : GitInv r) (old : Option Checkpoint) (p : Path) (b : Blob)
    (hhead : r.tree r.head p ≠ some b) (hdig : r.digest p ≠ some b)
    (hold : ∀ c m, old = some c → c.pending = some m → pendingLookup m p ≠ some (some b))
    (hign : (r.index p).isSome ∨ r.ignored p = false) (q : Path) :
    q ∈ (applyGit r (.write p b)).changes (checkpointUpdate r old none true) none none ↔ q = p := by
  have hid := c07_records_head r old true
  by_cases hqp : q = p
  case neg => rw [changes_write_other h b hqp hid, c07_fixpoint]; exact iff_of_false List.not_mem_nil hqp
  subst hqp
  have hw : (applyGit r (.write q b)).work q = some b := treeSet_eq
  refine (iff_true_right rfl).mpr ((c02_set (applyGit_inv h _) _ r.head hid q).mpr ⟨?_, ?_⟩)
  · -- tracked: the working tree now differs from HEAD; untracked: a new file that is not ignored
    cases hi : (r.index q).isSome
    · exact .inr ⟨Option.isSome_of_eq_some hw, Option.isSome_eq_false_iff.mp hi,
        hign.resolve_left (Bool.eq_false_iff.mp hi)⟩
    · have hv : (applyGit r (.write q b)).workView q = some b := (if_pos hi).trans hw
      exact .inl ⟨.inl hi, hv ▸ hhead.symm⟩
  · rintro ⟨m, hm, _, hl⟩
    rw [show (applyGit r (.write q b)).digest q = some b from hw] at hl
    rw [update_pending_eq] at hm
    split at hm
    · -- nothing was pending at update time: the old map was retained
      cases old with
      | none => cases hm
      | some c => exact hold c m rfl hm hl
    · cases hm
      exact hdig (pendingLookup_map.mp hl).2

/-- **C07 (exactly the targets affected by that path reappear).** Since the change set after the
edit has exactly the member `p`, the reported targets are those of analysing `[p]` alone. -/
theorem c07_targets {r : GitRepo} (h : GitInv r) (old : Option Checkpoint) (p : Path) (b : Blob)
    (hhead : r.tree r.head p ≠ some b) (hdig : r.digest p ≠ some b)
    (hold : ∀ c m, old = some c → c.pending = some m → pendingLookup m p ≠ some (some b))
    (hign : (r.index p).isSome ∨ r.ignored p = false) (cfg : Config) {k k' : Nat} (hk : 0 < k) (hk' : 0 < k') :
    (analyze cfg ((applyGit r (.write p b)).changes (checkpointUpdate r old none true) none none) k).targets
      = (analyze cfg [p] k').targets :=
  c01_batch_indep cfg _ _ hk hk' fun q =>
    (c07_reflag h old p b hhead hdig hold hign q).trans List.mem_singleton.symm

/-- **C07 (updating again clears).** A further `update --pending` returns to the fixpoint — an
instance of `c07_fixpoint` at the edited repository. -/
theorem c07_clear (r : GitRepo) (old : Option Checkpoint) (p : Path) (b : Blob) :
    let r' := applyGit r (.write p b)
    r'.changes (checkpointUpdate r' (some (checkpointUpdate r old none true)) none true) none none = [] :=
  c07_fixpoint _ _

/-! ## Non-vacuity: a dirty repository (moved, untracked, deleted files), update, then an edit -/

-- exRepo: commit 1 holds a,b ; a moved to c, d created (untracked), x ignored
example : exRepo.changes (checkpointUpdate exRepo none none true) none none = [] := by decide +kernel
example : (applyGit exRepo (.write [98] 9)).changes (checkpointUpdate exRepo none none true) none none = [[98]] := by
  decide +kernel
example : (checkpointUpdate exRepo none none true).pending =
    some [([97], none), ([99], some 1), ([100], some 4)] := by decide +kernel

end Monorail
