import Monorail.Proofs.ArgMap
/-!
# C11 — executables get the documented argv (argument table algebra) and resolution
-/
namespace Monorail

/-- **C11 (argv).** For every set of argmap files (any target may lack any file), every list of
requested argmaps, with or without the base argmap, every `--args`, and every list of distinct
targets taking part in the run: the argument list the table yields for `(t, c)` is the documented
concatenation — base entry, then each requested argmap's entry in the order given, then `--args`
(which apply only to the single named target and single command). -/
theorem c11_argv (inp : ArgInput) (files : String → TargetFiles) (targets : List String)
    (hnd : targets.Nodup)
    (hkeys : ∀ t n src, files t n = some src → (src.map (·.1)).Nodup)
    {tbl : Table} (h : buildTable inp targets files = .ok tbl) {t : String} (ht : t ∈ targets)
    (c : String) : getArgs tbl t c = argvSpec inp files t c := by
  rewrite [getArgs_mergeRunInput h, foldl_append_flatMap (getArgs · t c) _ _ fun tb a =>
    getArgs_mergeTargetArgmaps inp tb a (hkeys a) t c]
  -- of the targets' contributions only that of `t` is not empty
  rewrite [flatMap_eq_of_unique hnd ht fun a ha => List.flatMap_eq_nil_iff.mpr fun _ _ => if_neg ha]
  simp only [if_true]
  -- what is left is `getArgs [] t c ++ _ ++ _` against `argvSpec` unfolded
  rfl

/-- **C11 (`--args` rule).** `--args` with a number of commands other than one is an error … -/
theorem c11_args_commands (inp : ArgInput) (targets : List String) (files : String → TargetFiles)
    (hargs : inp.args ≠ []) (hc : inp.commands.length ≠ 1) :
    buildTable inp targets files = .error .argsManyCommands := by
  unfold buildTable mergeRunInput
  rw [if_neg (mt List.isEmpty_iff.mp hargs), if_pos (bne_iff_ne.mpr hc)]

/-- … and with a number of named targets other than one as well. -/
theorem c11_args_targets (inp : ArgInput) (targets : List String) (files : String → TargetFiles)
    (hargs : inp.args ≠ []) (hc : inp.commands.length = 1) (ht : inp.namedTargets.length ≠ 1) :
    buildTable inp targets files = .error .argsManyTargets := by
  unfold buildTable
  fun_cases mergeRunInput inp _ with
  | case1 h => exact absurd (List.isEmpty_iff.mp h) hargs
  | case2 _ h => exact absurd hc (bne_iff_ne.mp h)
  | case3 _ _ t hn => rewrite [hn] at ht; exact absurd rfl ht
  | case4 => rfl

/-- **C11 (isolation).** The arguments of `(t, c)` depend only on `t`'s own files. -/
theorem c11_isolation (inp : ArgInput) (files files' : String → TargetFiles) (t c : String)
    (h : files t = files' t) : argvSpec inp files t c = argvSpec inp files' t c := by
  unfold argvSpec; rw [h]

/-- **C11 (missing files).** Argmap files that do not exist contribute nothing. -/
theorem c11_missing (inp : ArgInput) (files : String → TargetFiles) (t c : String)
    (h : ∀ n, files t n = none) :
    argvSpec inp files t c = if inp.namedTargets = [t] ∧ inp.commands = [c] then inp.args else [] := by
  unfold argvSpec
  rw [List.flatMap_eq_nil_iff.mpr fun n _ => by rw [fileEntry, h], List.nil_append]

/-- **C11 (argmap names and files).** Distinct argmap names stand for distinct files - whatever
characters the names contain, dots included - so describing a target's argmap directory by
name ↦ content (`TargetFiles`) loses nothing: no two requested names can read one file, and a name
never reads the file of another name. -/
theorem c11_file_inj (a b : String) (h : argmapFile a = argmapFile b) : a = b := by
  unfold argmapFile at h
  have := congrArg String.toList h
  simp only [String.toList_append] at this
  exact String.ext (List.append_cancel_right this)

example : argmapFile "dev.linux" = "dev.linux.json" ∧ argmapFile "dev.linux" ≠ argmapFile "dev" := by decide +kernel

/-- **C11 (resolution).** A non-empty definition path wins; otherwise the executable is a file of
the commands directory whose stem equals the command name, and there is none iff no such file. -/
theorem c11_resolve_def (p : String) (hp : p ≠ "") (dir : List (String × String)) (c : String) :
    resolveCommand (some p) dir c = some p := by
  rw [resolveCommand, if_pos hp]

theorem resolveCommand_dir {d : Option String} (hd : d = none ∨ d = some "")
    (dir : List (String × String)) (c : String) :
    resolveCommand d dir c = (dir.find? (fun e => e.1 = c)).map (·.2) := by
  rcases hd with rfl | rfl
  · rfl
  · rw [resolveCommand, if_neg (not_not_intro rfl)]

theorem c11_resolve_stem (d : Option String) (hd : d = none ∨ d = some "")
    (dir : List (String × String)) (c : String) (f : String) :
    resolveCommand d dir c = some f → ∃ e ∈ dir, e.1 = c ∧ e.2 = f := by
  rewrite [resolveCommand_dir hd, Option.map_eq_some_iff]
  exact Exists.imp fun e h =>
    ⟨List.mem_of_find?_eq_some h.1, of_decide_eq_true (List.find?_some h.1 :), h.2⟩

theorem c11_resolve_none (d : Option String) (hd : d = none ∨ d = some "")
    (dir : List (String × String)) (c : String) :
    resolveCommand d dir c = none ↔ ∀ e ∈ dir, e.1 ≠ c := by
  rewrite [resolveCommand_dir hd, Option.map_eq_none_iff, List.find?_eq_none]
  simp only [decide_eq_true_eq, ne_eq]

def exFiles : String → TargetFiles := fun t n =>
  if t = "app" ∧ n = "base" then some [("build", ["--release"]), ("test", ["-q"])]
  else if t = "app" ∧ n = "ci" then some [("build", ["--locked", "a b"])]
  else if t = "lib" ∧ n = "ci" then some [("build", [""])]
  else none

def exInp : ArgInput :=
  { useBase := true, argmaps := ["ci", "nope"], args := ["x y"], commands := ["build"], namedTargets := ["app"] }

example : (buildTable exInp ["lib", "app"] exFiles).toOption =
    some [("lib", [("build", [""])]), ("app", [("build", ["--release", "--locked", "a b", "x y"]), ("test", ["-q"])])] := by
  decide +kernel
example : argvSpec exInp exFiles "app" "build" = ["--release", "--locked", "a b", "x y"] := by decide +kernel
example : argvSpec exInp exFiles "lib" "build" = [""] := by decide +kernel

end Monorail
