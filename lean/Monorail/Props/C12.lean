import Monorail.Proofs.Store
import Mathlib.Data.List.Induction
import Monorail.Generated.Consts
/-!
# C12 — latest-run addressing and bounded retention over any run history
-/
namespace Monorail

/-- the complete description of the store after any history of completed runs -/
theorem history_spec (max : Nat) (hmax : 0 < max) (rs : List Run) :
    (history max rs).tmp = none ∧
    (history max rs).pointer = (if rs.length = 0 then none else some ((rs.length - 1) % max + 1)) ∧
    (∀ j (hj : j < rs.length), rs.length ≤ j + max →
      (history max rs).slots (j % max + 1) = some (slotOfRun rs[j])) ∧
    (∀ i, (i = 0 ∨ i > min rs.length max) → (history max rs).slots i = none) := by
  induction rs using List.reverseRecOn with
  | nil => exact ⟨rfl, rfl, fun _ hj => absurd hj (Nat.not_lt_zero _), fun _ _ => rfl⟩
  | append_singleton rs r ih =>
    obtain ⟨-, ih2, ih3, ih4⟩ := ih
    -- run `rs.length + 1` writes slot `rs.length % max + 1` and nothing else
    have hn := nextId_after max hmax rs.length
    rewrite [← ih2] at hn
    simp only [history_concat, doRun_eq, hn, List.length_append, List.length_singleton]
    refine ⟨trivial, by rw [if_neg (Nat.succ_ne_zero _), Nat.add_sub_cancel], fun j hj hret => ?_, fun i hi => ?_⟩
    · rcases Nat.lt_succ_iff_lt_or_eq.mp hj with hj' | rfl
      · have hne := mod_ne_of_close hj' (Nat.lt_of_succ_le hret)
        rw [setSlot_ne (fun h => hne (Nat.succ.inj h)), ih3 j hj' (Nat.le_of_succ_le hret),
          List.getElem_append_left hj']
      · rw [setSlot_eq, List.getElem_concat_length rfl]
    · obtain ⟨hne, hi'⟩ := beyond_succ hmax hi
      rw [setSlot_ne hne, ih4 i hi']

/-- **C12 (pointer).** After `n > 0` runs the pointer names slot `((n-1) mod max) + 1`. -/
theorem c12_ptr (max : Nat) (hmax : 0 < max) (rs : List Run) (hne : rs ≠ []) :
    (history max rs).pointer = some ((rs.length - 1) % max + 1) :=
  (history_spec max hmax rs).2.1.trans (if_neg (mt List.length_eq_zero_iff.mp hne))

/-- **C12 (latest run).** `result show` returns the document of the most recent completed run and
`log show` exactly that run's logs — nothing is left over from an older run that used the same
slot — for every history and every `max_retained_runs ≥ 1`. -/
theorem c12_latest (max : Nat) (hmax : 0 < max) (rs : List Run) (r : Run) :
    resultShow (history max (rs ++ [r])) = some r.doc ∧
    logShow (history max (rs ++ [r])) none = some (slotOfRun r).logs := by
  simp [history_concat, doRun_eq, resultShow, logShow, setSlot_eq, slotOfRun]

/-- **C12 (retained runs).** Each of the last `max_retained_runs` runs is still addressable by its
slot id, with exactly its own result and logs. -/
theorem c12_retained (max : Nat) (hmax : 0 < max) (rs : List Run) (j : Nat) (hj : j < rs.length)
    (hret : rs.length ≤ j + max) :
    logShow (history max rs) (some (j % max + 1)) = some (slotOfRun rs[j]).logs ∧
    (history max rs).slots (j % max + 1) = some (slotOfRun rs[j]) := by
  have hs := (history_spec max hmax rs).2.2.1 j hj hret
  exact ⟨congrArg (Option.map Slot.logs) hs, hs⟩

/-- **C12 (bounded retention).** Only slot ids `1 … max_retained_runs` ever exist. -/
theorem c12_bound (max : Nat) (hmax : 0 < max) (rs : List Run) (i : Nat)
    (h : (history max rs).slots i ≠ none) : 1 ≤ i ∧ i ≤ max := by
  obtain ⟨h0, hle⟩ := not_or.mp (mt ((history_spec max hmax rs).2.2.2 i) h)
  exact ⟨Nat.pos_of_ne_zero h0, Nat.le_trans (Nat.le_of_not_lt hle) (Nat.min_le_right _ _)⟩

/-- **C12 (the limit may change between runs).** Whatever the stored pointer is - in particular one
left behind by a larger limit - the slot the next run uses lies within the current limit, and a
pointer at or beyond the limit wraps to slot 1 (it does not keep growing). -/
theorem c12_next_within (pointer : Option Nat) (max : Nat) (hmax : 0 < max) :
    1 ≤ nextId pointer max ∧ nextId pointer max ≤ max ∧
    (∀ p, pointer = some p → max ≤ p → nextId pointer max = 1) := by
  simp only [nextId]
  refine ⟨Nat.succ_pos _, ?_, fun p hp hle => by simp [hp, hle]⟩
  split
  · exact hmax
  · exact Nat.lt_of_not_le ‹_›

example : nextId (some 4) 2 = 1 ∧ nextId (some 1) 2 = 2 ∧ nextId none 2 = 1 := by decide +kernel

/-- the default `max_retained_runs` the code uses today is positive -/
theorem c12_default_pos : 0 < Consts.defaultMaxRetainedRuns := by decide

/-! ## Non-vacuity: 5 runs with `max_retained_runs = 2`, different logs per run -/

def exRuns : List Run :=
  [⟨10, [(1, 100)]⟩, ⟨20, [(1, 200), (2, 201)]⟩, ⟨30, []⟩, ⟨40, [(2, 400)]⟩, ⟨50, [(1, 500)]⟩]

example : (history 2 exRuns).pointer = some 1 ∧ resultShow (history 2 exRuns) = some 50 ∧
    logShow (history 2 exRuns) none = some [(1, .full 500)] ∧
    logShow (history 2 exRuns) (some 2) = some [(2, .full 400)] ∧
    (history 2 exRuns).slots 3 = none := by decide +kernel

end Monorail
