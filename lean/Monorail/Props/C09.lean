import Monorail.Proofs.Graph
import Monorail.Props.C03
import Monorail.Spec.C03
import Monorail.Proofs.Dfs
/-!
# C09 — cyclic graphs are always rejected (graph level)
-/
namespace Monorail
open Relation

/-- Every node on a cycle through a visible node is visible, whether or not all edges of `g` point
at nodes: a node on a cycle has an outgoing edge, so it is a node of the graph. -/
theorem cycle_in_closure (g : Graph) (roots : List Nat) {v x : Nat} (hv : v ∈ closure g roots)
    (hvx : Reach g v x) (hxv : Reach1 g x v) : x ∈ closure g roots := by
  induction hvx with
  | refl => exact hv
  | tail _ hyx ih =>
    obtain ⟨b, hxb, _⟩ := TransGen.head'_iff.mp hxv
    exact closure_closed_of_lt g roots _ (ih (.head hyx hxv)) _ hyx (dep_lt g hxb)

/-- Grouping fails exactly when a visible node lies on a cycle - for every graph and every root set. -/
theorem groups_error_iff_cyclic (g : Graph) (roots : List Nat) :
    groups g roots = .error .cycle ↔ ∃ v ∈ closure g roots, Reach1 g v v := by
  refine ⟨fun h => by_contra fun hn => ?_, fun ⟨v, hv, hc⟩ => ?_⟩
  · exact groups_error_iff.mp h (complete_of_noCycle g _ fun v hv hc => hn ⟨v, hv, hc⟩)
  -- the nodes on a cycle through `v` are visible, and each has a dependent among them
  refine groups_error_iff.mpr (cyclic_leftover g _ (fun x => Reach1 g v x ∧ Reach1 g x v)
    (fun x hx => cycle_in_closure g roots hv hx.1.to_reflTransGen hx.2) ?_ ⟨hc, hc⟩)
  rintro x ⟨hvx, hxv⟩
  obtain ⟨u, hvu, hux⟩ := TransGen.tail'_iff.mp hvx
  exact ⟨u, ⟨hc.trans_left hvu, TransGen.head hux hxv⟩, hux⟩

/-- **C09 (reject).** If some visible node lies on a cycle, grouping fails with the cycle error —
for every graph, every root set. (That it never hangs is by construction: `groups` is a total
function whose recursion is structural in the fuel, accepted by Lean's termination checker.) -/
theorem c09_reject (g : Graph) (hr : InRange g) (roots : List Nat) {v : Nat}
    (hv : v ∈ closure g roots) (hc : Reach1 g v v) : groups g roots = .error .cycle :=
  (groups_error_iff_cyclic g roots).mpr ⟨v, hv, hc⟩

/-- the labeled order fails in the same way -/
theorem c09_reject_labeled (g : Graph) (hr : InRange g) (roots : List Nat) {v : Nat}
    (hv : v ∈ closure g roots) (hc : Reach1 g v v) : labeledGroups g roots = .error .cycle :=
  labeledGroups_error_iff.mpr (c09_reject g hr roots hv hc)

/-- **C03/C09 (dichotomy).** Grouping succeeds exactly when no visible node lies on a cycle. -/
theorem c09_iff (g : Graph) (hr : InRange g) (roots : List Nat) :
    (∃ gs, groups g roots = .ok gs) ↔ ∀ v ∈ closure g roots, ¬ Reach1 g v v := by
  refine ⟨?_, c03_succeeds g roots⟩
  rintro ⟨gs, hgs⟩ v hv hc
  exact groups_error_iff.mp (c09_reject g hr roots hv hc) (groups_ok_iff.mp hgs).1

/-! ## Non-vacuity: a 3-cycle behind an acyclic entry node; an unrelated root is unaffected -/

/-- 0 → 1 → 2 → 3 → 1, node 4 isolated -/
def exCycle : Graph := ⟨[[1], [2], [3], [1], []]⟩

example : groups exCycle [0] = .error .cycle := by decide +kernel
example : groups exCycle [4] = .ok [[4]] := by decide +kernel


/-! ## Lifted to configurations, and the oracle's cycle test is the specification -/

/-- **C09 (configurations, trailing separators).** For every configuration whose target paths name
pairwise different normal directories, each written with or without one trailing separator: if a
requested target (or anything it transitively depends on) lies on a dependency cycle — through
`uses` alone or through `uses` combined with nesting, both are edges by C10 — then grouping fails
with the cycle error. -/
theorem c09_index_reject_dir {cfg : Config} (hwf : WFD cfg) (roots : List Nat) {v : Nat}
    (hv : v ∈ closure (graphOf cfg) roots) (hc : Reach1 (graphOf cfg) v v) :
    labeledGroups (graphOf cfg) roots = .error .cycle :=
  c09_reject_labeled (graphOf cfg) (inRange_graphOf cfg) roots hv hc

/-- **C09 (configurations).** The same for every well-formed configuration (target paths written
without trailing separator). -/
theorem c09_index_reject {cfg : Config} (hwf : WF cfg) (roots : List Nat) {v : Nat}
    (hv : v ∈ closure (graphOf cfg) roots) (hc : Reach1 (graphOf cfg) v v) :
    labeledGroups (graphOf cfg) roots = .error .cycle :=
  c09_index_reject_dir hwf.toWFD roots hv hc

/-- the oracle's test "`v` is reachable from one of its own dependencies" is "`v` lies on a cycle" -/
theorem reach1_iff_closure (g : Graph) (hr : InRange g) (v : Nat) :
    Reach1 g v v ↔ v ∈ closure g (g.out v) := by
  rewrite [mem_closure g hr]
  exact TransGen.head'_iff.trans <| exists_congr fun b => and_congr_right fun hb =>
    (and_iff_right (hr v b hb)).symm

theorem cyclicB_iff (g : Graph) (hr : InRange g) (vis : List Nat) :
    cyclicB g vis = true ↔ ∃ v ∈ vis, Reach1 g v v := by
  simp only [cyclicB, List.any_eq_true, List.contains_iff_mem, reach1_iff_closure g hr]

/-- **C09 (model meets oracle).** The model fails exactly when the oracle's cycle test fires. -/
theorem c09_model_meets_oracle (g : Graph) (hr : InRange g) (roots : List Nat) :
    groups g roots = .error .cycle ↔ cyclicB g (closure g roots) = true := by
  rw [cyclicB_iff g hr, groups_error_iff_cyclic g]

/-- **C09 (the loop of the code).** The concrete counter / queue loop of `get_groups` (refined to
the abstract layering in `Proofs/Kahn.lean`) fails with the cycle error exactly when a node reachable
from the roots lies on a cycle. -/
theorem c09_kahn (g : Graph) (hr : InRange g) (roots : List Nat) :
    kahn g (closure g roots) = .error .cycle ↔ ∃ v ∈ closure g roots, Reach1 g v v :=
  (kahn_groups g roots).1.trans (groups_error_iff_cyclic g roots)

/-- **C03 / C09 (the code path, end to end).** `Index::new`'s visibility walks from every requested
root (the concrete iterative depth-first walk with its `active` set, `Model/Dfs.lean`) followed by
the concrete counter / queue loop of `get_groups`:

* fails with the cycle error exactly when the abstract `groups` does - i.e. (by `c09_iff`) exactly
  when some node reachable from the roots lies on a cycle - whether the walk or the loop finds it;
* otherwise returns exactly what the loop returns on the reachability closure, which `c03_kahn`
  shows to be a partition of the closure in dependency order.

The walk's own loop terminates (its fuel is proved sufficient). -/
theorem c09_index_dfs (g : Graph) (hr : InRange g) (roots : List Nat) (hroots : ∀ r ∈ roots, r < g.size) :
    (indexGroups g roots = .error .cycle ↔ groups g roots = .error .cycle) ∧
    (∀ cs, indexGroups g roots = .ok cs → kahn g (closure g roots) = .ok cs) := by
  have hv := visibleOf_spec hr roots [] hroots List.nodup_nil
  unfold indexGroups
  generalize visibleOf g roots [] = res at hv
  cases hv with
  | ok vis' hmem hnd _ =>
    have hperm := (List.perm_ext_iff_of_nodup hnd (closure_nodup g roots)).mpr fun x =>
      (hmem x).trans ((or_iff_right List.not_mem_nil).trans (mem_closure_of_lt g hr hroots x).symm)
    simp only [kahn_perm g hperm]
    exact ⟨(kahn_groups g roots).1, fun cs h => h⟩
  | cycle c hreach hcyc =>
    have hg := c09_reject g hr roots ((mem_closure_of_lt g hr hroots c).mpr hreach) hcyc
    exact ⟨iff_of_true rfl hg, fun cs h => by cases h⟩

/-- `a` uses a path inside `a/b`, which is nested in `a`: a cycle through uses + nesting -/
def exNestCycle : Config :=
  [ { path := [97], uses := [[97,47,98,47,120]], ignores := [] },
    { path := [97,47,98], uses := [], ignores := [] },
    { path := [99], uses := [], ignores := [] } ]

example : labeledGroups (graphOf exNestCycle) [0, 1, 2] = .error .cycle := by decide +kernel
example : labeledGroups (graphOf exNestCycle) [2] = .ok [[2]] := by decide +kernel
example : indexGroups (graphOf exNestCycle) [0, 1, 2] = .error .cycle ∧ indexGroups (graphOf exNestCycle) [2] = .ok [[2]] := by decide +kernel
/-- the pinned tree's walk (one `active` set, never cleared) reported a cycle for this diamond -/
example : setVisibleLegacy ⟨[[1, 2], [3], [3], []]⟩ 0 = .error (.cycle 3) ∧
    setVisible ⟨[[1, 2], [3], [3], []]⟩ [] 0 = .ok [2, 3, 1, 0] := by decide +kernel
/-- a diamond is not a cycle for the walk (the pinned tree's `active` set said it was) -/
example : indexGroups ⟨[[1, 2], [3], [3], []]⟩ [0] = .ok [[0], [2, 1], [3]] := by decide +kernel

end Monorail
