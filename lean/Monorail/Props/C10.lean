import Monorail.Proofs.Index
import Monorail.Spec.C10
/-!
# C10 — the dependency relation is exactly what the configuration declares

Only property theorems and their non-vacuity examples live in this file.
-/
namespace Monorail

/-- SPEC (stated on whole path components): `T` depends on `U`. -/
def DependsOn (T U : Target) : Prop :=
  Within U.path T.path ∨ ∃ u ∈ T.uses, Within U.path u

/-- SPEC for target paths that may be written with one trailing separator (`"core/"` names the
directory `core`): `T` depends on `U` when `U`'s directory encloses `T`'s directory, or equals or
encloses one of `T`'s `uses` entries. On normal paths this is `DependsOn`. -/
def DependsOnD (T U : Target) : Prop :=
  Within (dirOf U.path) (dirOf T.path) ∨ ∃ u ∈ T.uses, Within (dirOf U.path) u

theorem dependsOnD_normal {T U : Target} (hT : Normal T.path) (hU : Normal U.path) :
    DependsOnD T U ↔ DependsOn T U := by
  rw [DependsOnD, dirOf_normal hT, dirOf_normal hU, DependsOn]

theorem deps_iff_at {cfg : Config} (hwf : WFD cfg) {i j : Nat} {T U : Target}
    (hT : cfg[i]? = some T) (hU : cfg[j]? = some U) :
    j ∈ deps cfg i ↔ j ≠ i ∧ DependsOnD T U := by
  have hUm := List.mem_of_getElem? hU
  simp only [mem_deps hwf.nodupPath hT hU, hit_targets hwf hUm (List.mem_of_getElem? hT),
    hit_slashQ (hwf.normal U hUm), DependsOnD]

/-- the adjacency entry is a predicate of the two targets alone, wherever they are declared -/
theorem deps_iff_targets {cfg : Config} (hwf : WFD cfg) {i j : Nat} {T U : Target}
    (hT : cfg[i]? = some T) (hU : cfg[j]? = some U) :
    j ∈ deps cfg i ↔ U.path ≠ T.path ∧ DependsOnD T U :=
  (deps_iff_at hwf hT hU).trans (and_congr_left' (path_ne_iff hwf.nodupPath hT hU).symm)

/-- **C10 (trailing separators).** The main theorem for every configuration whose target paths
name pairwise different normal directories, each written with or without one trailing separator;
`uses` entries are arbitrary byte strings. -/
theorem c10_deps_iff_dir {cfg : Config} (hwf : WFD cfg) {i : Nat} {T : Target} (hT : cfg[i]? = some T)
    (j : Nat) :
    j ∈ deps cfg i ↔ ∃ U, cfg[j]? = some U ∧ j ≠ i ∧ DependsOnD T U :=
  ⟨fun h => ⟨cfg[j]'(deps_lt h), List.getElem?_eq_getElem _,
      (deps_iff_at hwf hT (List.getElem?_eq_getElem _)).mp h⟩,
   fun h => h.elim fun _ h => (deps_iff_at hwf hT h.1).mpr h.2⟩

/-- **C10 (main).** For every well-formed configuration, the adjacency entry that `Index::new`
computes for target number `i` contains `j` exactly when `j` is another configured target whose
directory encloses `T`'s directory, or encloses/equals one of `T`'s `uses` entries — on whole path
components. -/
theorem c10_deps_iff {cfg : Config} (hwf : WF cfg) {i : Nat} {T : Target} (hT : cfg[i]? = some T)
    (j : Nat) :
    j ∈ deps cfg i ↔ ∃ U, cfg[j]? = some U ∧ j ≠ i ∧ DependsOn T U := by
  rewrite [c10_deps_iff_dir hwf.toWFD hT]
  refine exists_congr fun U => and_congr_right fun hU => and_congr_right fun _ => ?_
  exact dependsOnD_normal (hwf.normal T (List.mem_of_getElem? hT)) (hwf.normal U (List.mem_of_getElem? hU))

/-- **C10.** Each adjacency entry is strictly increasing: no duplicate edge is ever stored, hence
`target render` emits each edge once. -/
theorem c10_deps_sorted (cfg : Config) (i : Nat) : (deps cfg i).Pairwise (· < ·) := by
  fun_cases deps cfg i
  · exact List.Pairwise.nil
  · exact sortDedup_sorted _

theorem c10_deps_lt_dir {cfg : Config} (hwf : WFD cfg) {i j : Nat} {T : Target} (hT : cfg[i]? = some T)
    (h : j ∈ deps cfg i) : j < cfg.length :=
  deps_lt h

/-- **C10.** Edges only ever point at configured targets. -/
theorem c10_deps_lt {cfg : Config} (hwf : WF cfg) {i j : Nat} {T : Target} (hT : cfg[i]? = some T)
    (h : j ∈ deps cfg i) : j < cfg.length :=
  deps_lt h

/-- **C10 (declaration order).** The label-level relation does not depend on where the two
targets are declared: it is a predicate of the two targets alone. -/
theorem c10_label_level {cfg cfg' : Config} (hwf : WF cfg) (hwf' : WF cfg')
    {i j i' j' : Nat} {T U : Target}
    (hT : cfg[i]? = some T) (hU : cfg[j]? = some U)
    (hT' : cfg'[i']? = some T) (hU' : cfg'[j']? = some U) (hne : T.path ≠ U.path) :
    j ∈ deps cfg i ↔ j' ∈ deps cfg' i' :=
  (deps_iff_targets hwf.toWFD hT hU).trans (deps_iff_targets hwf'.toWFD hT' hU').symm

/-! ## The oracle used on implementation output is the specification of the theorem -/

theorem dependsOnB_iff (T U : Target) : dependsOnB T U = true ↔ DependsOn T U := by
  simp only [dependsOnB, DependsOn, Bool.or_eq_true, List.any_eq_true, withinB_iff]

theorem wfB_iff (cfg : Config) : wfB cfg = true ↔ WF cfg := by
  simp only [wfB, Bool.and_eq_true, Bool.not_eq_true', hasDupPath_eq_false, List.all_eq_true,
    normalB_iff]
  exact ⟨fun h => ⟨h.1, h.2⟩, fun h => ⟨h.nodup, h.normal⟩⟩

/-- the oracle's expected adjacency is the right-hand side of `c10_deps_iff` -/
theorem mem_specDeps {cfg : Config} {i : Nat} {T : Target} (hT : cfg[i]? = some T) (j : Nat) :
    j ∈ specDeps cfg i ↔ ∃ U, cfg[j]? = some U ∧ j ≠ i ∧ DependsOn T U := by
  simp only [specDeps, hT, ← dependsOnB_iff]
  exact mem_filter_deps

/-- **C10 (model meets oracle).** On every well-formed configuration the model's adjacency has
exactly the members the oracle demands — so an implementation that agrees with the model passes the
oracle, and one that fails the oracle differs from the proved behaviour. -/
theorem c10_model_meets_oracle {cfg : Config} (hwf : WF cfg) {i : Nat} {T : Target}
    (hT : cfg[i]? = some T) (j : Nat) : j ∈ deps cfg i ↔ j ∈ specDeps cfg i := by
  rw [c10_deps_iff hwf hT, mem_specDeps hT]

theorem dependsOnDB_iff (T U : Target) : dependsOnDB T U = true ↔ DependsOnD T U := by
  simp only [dependsOnDB, DependsOnD, Bool.or_eq_true, List.any_eq_true, withinB_iff]

theorem wfDB_iff (cfg : Config) : wfDB cfg = true ↔ WFD cfg := by
  simp only [wfDB, Bool.and_eq_true, Bool.not_eq_true', hasDupDir_eq_false, List.all_eq_true,
    normalB_iff]
  exact ⟨fun h => ⟨h.1, h.2⟩, fun h => ⟨h.nodup, h.normal⟩⟩

theorem mem_specDepsD {cfg : Config} {i : Nat} {T : Target} (hT : cfg[i]? = some T) (j : Nat) :
    j ∈ specDepsD cfg i ↔ ∃ U, cfg[j]? = some U ∧ j ≠ i ∧ DependsOnD T U := by
  simp only [specDepsD, hT, ← dependsOnDB_iff]
  exact mem_filter_deps

/-- **C10 (model meets oracle, trailing separators).** -/
theorem c10_model_meets_oracle_dir {cfg : Config} (hwf : WFD cfg) {i : Nat} {T : Target}
    (hT : cfg[i]? = some T) (j : Nat) : j ∈ deps cfg i ↔ j ∈ specDepsD cfg i := by
  rw [c10_deps_iff_dir hwf hT, mem_specDepsD hT]

/-! ## Non-vacuity: a concrete configuration with prefix-sharing names, nesting and `uses` -/

/-- `app`, `app2` (shares a byte prefix), `app/web` (nested), `lib` ; `app2` uses `lib/src/x.rs`. -/
def exCfg : Config :=
  [ { path := [97,112,112], uses := [], ignores := [] },
    { path := [97,112,112,50], uses := [[108,105,98,47,115,114,99,47,120,46,114,115]], ignores := [] },
    { path := [97,112,112,47,119,101,98], uses := [], ignores := [] },
    { path := [108,105,98], uses := [], ignores := [] } ]

theorem exCfg_wf : WF exCfg := (wfB_iff exCfg).mp (by decide +kernel)

example : deps exCfg 0 = [] ∧ deps exCfg 1 = [3] ∧ deps exCfg 2 = [0] ∧ deps exCfg 3 = [] := by decide +kernel

/-- the unrepaired (byte-prefix) rule made `app2` depend on `app` -/
example : depsLegacy exCfg 1 = [0, 3] := by decide +kernel

/-- `core/` (declared with a trailing separator), `app` using `core`, `tool` using `core/include`,
`core/sub` nested in it -/
def exCfgSlash : Config :=
  [ { path := [99,111,114,101,47], uses := [], ignores := [] },
    { path := [97,112,112], uses := [[99,111,114,101]], ignores := [] },
    { path := [116,111,111,108], uses := [[99,111,114,101,47,105,110,99,108,117,100,101]], ignores := [] },
    { path := [99,111,114,101,47,115,117,98], uses := [], ignores := [] } ]

example : wfDB exCfgSlash = true ∧ wfB exCfgSlash = false := by decide +kernel
example : deps exCfgSlash 0 = [] ∧ deps exCfgSlash 1 = [0] ∧ deps exCfgSlash 2 = [0] ∧ deps exCfgSlash 3 = [0] := by decide +kernel
/-- what the lookup of `uses: ["core"]` found before the `fix:` commit (entry as written): nothing -/
example : hit [99,111,114,101,47] [99,111,114,101] = false ∧ hit [99,111,114,101,47] (slashQ [99,111,114,101]) = true := by decide +kernel

end Monorail
