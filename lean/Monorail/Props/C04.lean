import Monorail.Proofs.ExecInv
/-!
# C04 — commands run in dependency order under every schedule

The executor machine processes the flattened plan (all groups of the first command, then of the
second, …); a schedule is an arbitrary list of completions. Together with C03 (each target is in a
later group than everything it depends on) the theorems below give the property: an executable is
started only after every executable of every earlier group — in particular of its dependencies, and
of every earlier command — has exited.
-/
namespace Monorail

/-- **C04 (barrier).** Under every schedule: when a task of group `g` is spawned, every task of a
different group spawned before it has already completed. -/
theorem c04_barrier (fou : Bool) (plan : List Group) (inputs : List (Nat × Outcome))
    {pre post : List Ev} {g a : Nat}
    (h : (runExec fou plan inputs).trace = pre ++ Ev.spawn g a :: post)
    {g' b : Nat} (hb : Ev.spawn g' b ∈ pre) (hne : g' ≠ g) : ∃ oc, Ev.done b oc ∈ pre :=
  (runExec_inv fou plan inputs).barrier pre g a post h g' b hb hne

/-- **C04 (plan order).** Groups are entered in the order of the plan. -/
theorem c04_ordered (fou : Bool) (plan : List Group) (inputs : List (Nat × Outcome))
    {pre post : List Ev} {g a : Nat}
    (h : (runExec fou plan inputs).trace = pre ++ Ev.spawn g a :: post)
    {g' b : Nat} (hb : Ev.spawn g' b ∈ pre) : g' ≤ g :=
  (runExec_inv fou plan inputs).ordered pre g a post h g' b hb

/-- **C04 (position).** A spawn event names the plan position of the task's group; only tasks whose
command resolves to an executable are ever spawned. -/
theorem c04_where (fou : Bool) (plan : List Group) (inputs : List (Nat × Outcome)) {g i : Nat}
    (h : Ev.spawn g i ∈ (runExec fou plan inputs).trace) :
    ∃ grp, plan[g]? = some grp ∧ ∃ t ∈ grp, t.id = i ∧ t.disp = .run :=
  (runExec_inv fou plan inputs).whereSpawn g i h

/-- **C04 (dependency order, every schedule).** Let the (command, target) pairs of the plan have
distinct ids. If task `u` sits in an earlier group of the plan than task `t` (as every dependency of
`t`, and every task of an earlier command, does) and `u` was spawned at all, then `u` has completed
before `t` is spawned. -/
theorem c04_dep (fou : Bool) (plan : List Group) (hnd : (planIds plan).Nodup)
    (inputs : List (Nat × Outcome))
    {gU gT : Nat} {GU GT : Group} (hGU : plan[gU]? = some GU) (hGT : plan[gT]? = some GT)
    {u t : Task} (hu : u ∈ GU) (ht : t ∈ GT) (hlt : gU < gT)
    {pre post : List Ev} {g : Nat}
    (h : (runExec fou plan inputs).trace = pre ++ Ev.spawn g t.id :: post)
    {g' : Nat} (hus : Ev.spawn g' u.id ∈ (runExec fou plan inputs).trace) :
    ∃ oc, Ev.done u.id oc ∈ pre := by
  have inv := runExec_inv fou plan inputs
  -- the events carry the plan positions
  obtain ⟨G, hG, x, hx, hxid, _⟩ := inv.whereSpawn g t.id (h ▸ List.mem_append_right _ List.mem_cons_self)
  obtain rfl : g = gT := (id_unique hnd hG hGT hx ht hxid).1
  obtain ⟨G', hG', x', hx', hxid', _⟩ := inv.whereSpawn g' u.id hus
  obtain rfl : g' = gU := (id_unique hnd hG' hGU hx' hu hxid').1
  refine inv.barrier pre g t.id post h g' u.id ?_ (Nat.ne_of_lt hlt)
  -- `u`'s spawn cannot come after `t`'s: groups are entered in plan order
  rewrite [h] at hus
  rcases List.mem_append.mp hus with hp | hp
  · exact hp
  · rcases List.mem_cons.mp hp with hp | hp
    · exact absurd (Ev.spawn.inj hp).1 (Nat.ne_of_lt hlt)
    · obtain ⟨p1, p2, rfl⟩ := List.append_of_mem hp
      exact absurd (inv.ordered (pre ++ Ev.spawn g t.id :: p1) g' u.id p2
        (h.trans (List.append_assoc pre (Ev.spawn g t.id :: p1) _).symm) g t.id
        (List.mem_append_right _ List.mem_cons_self)) (Nat.not_le_of_lt hlt)

/-! ## Non-vacuity: a dependency that is slower than its dependent, two commands -/

/-- plan: command 0 over groups [u] , [t, v]; command 1 over the same groups (ids 3..5) -/
def exPlan : List Group :=
  [[⟨0, .run⟩], [⟨1, .run⟩, ⟨2, .undefined⟩], [⟨3, .run⟩], [⟨4, .run⟩, ⟨5, .run⟩]]

example : (runExec false exPlan [(0, .code 0), (1, .code 0), (3, .code 0), (5, .code 0), (4, .code 0)]).trace =
    [.spawn 0 0, .done 0 (.code 0), .spawn 1 1, .done 1 (.code 0), .spawn 2 3, .done 3 (.code 0),
     .spawn 3 4, .spawn 3 5, .done 5 (.code 0), .done 4 (.code 0)] := by decide +kernel

end Monorail
