import Monorail.Model.Git
import Monorail.Model.Analyze
import Monorail.Proofs.Sort
/-!
# C19 — the checkpoint store reflects the last update; without one everything is changed
-/
namespace Monorail

/-- an event of a history: a git operation, or an operation on the checkpoint store -/
inductive HistEv where
  | git (op : GitOp)
  | ck (op : CkOp)

structure HistSt where
  repo : GitRepo
  ck : Option Checkpoint          -- what `checkpoint show` returns (`none` = it fails)
  lastReturn : Option Checkpoint  -- what the most recent successful update returned, if no delete since

def histStep (s : HistSt) : HistEv → HistSt
  | .git op => { s with repo := applyGit s.repo op }
  | .ck (.update id p) =>
    let c := checkpointUpdate s.repo s.ck id p
    { s with ck := some c, lastReturn := some c }
  | .ck (.updateUnborn _) => s       -- `git rev-parse HEAD` fails: nothing is written
  | .ck .delete => { s with ck := none, lastReturn := none }
  | .ck .outDeleteAll => { s with ck := none, lastReturn := none }

def histRun (ign : Path → Bool) (evs : List HistEv) : HistSt :=
  evs.foldl histStep { repo := GitRepo.empty ign, ck := none, lastReturn := none }

/-- **C19 (show = last update).** After any sequence of updates (with and without `--id` /
`--pending`), deletes and out-deletes interleaved with commits and edits, `checkpoint show` returns
exactly what the most recent successful update returned — and fails when there has been none since
the last delete. -/
theorem c19_show (ign : Path → Bool) (evs : List HistEv) :
    (histRun ign evs).ck = (histRun ign evs).lastReturn := by
  unfold histRun
  refine List.foldlRecOn (motive := fun s => s.ck = s.lastReturn) evs histStep ?_ fun s h e _ => ?_
  · rfl
  cases e with
  | git op => exact h
  | ck op => cases op with
    | updateUnborn => exact h
    | _ => rfl

/-- **C19 (HEAD is recorded).** Without `--id` an update records the commit HEAD resolves to at that
moment; with `--id` it records the given id. -/
theorem c19_head (r : GitRepo) (old : Option Checkpoint) (pending : Bool) :
    (checkpointUpdate r old none pending).id = some r.head ∧
    ∀ i, (checkpointUpdate r old (some i) pending).id = some i :=
  ⟨rfl, fun _ => rfl⟩

/-- **C19 (nothing to record).** An update without `--id` issued while HEAD resolves to no commit
(an orphan branch before its first commit, a repository without commits) fails and leaves the stored
checkpoint - and what `checkpoint show` returns - exactly as it was. -/
theorem c19_unborn (s : HistSt) (p : Bool) : histStep s (.ck (.updateUnborn p)) = s := rfl

/-- **C19 (delete).** After `checkpoint delete` or `out delete --all` there is no checkpoint, whatever
happened before. -/
theorem c19_delete (s : HistSt) :
    (histStep s (.ck .delete)).ck = none ∧ (histStep s (.ck .outDeleteAll)).ck = none := ⟨rfl, rfl⟩

/-- **C19 (without a checkpoint everything is changed).** `analyze` then reports every configured
target (sorted), whatever the repository looks like. -/
theorem c19_all_targets (cfg : Config) (t : Path) :
    t ∈ (analyzeAll cfg).targets ↔ ∃ T ∈ cfg, T.path = t :=
  mem_sortDedupBy.trans List.mem_map

theorem c19_all_sorted (cfg : Config) :
    (analyzeAll cfg).targets.Pairwise (fun a b => pathLt a b = true) :=
  sortDedupBy_sorted pathLt_strict _

example :
    let evs := [HistEv.git (.write [97] 1), .git .addAll, .git .commit, .ck (.update none false),
      .git (.write [97] 2), .ck (.update (some 0) true), .git .commit]
    ((histRun (fun _ => false) evs).ck.map (·.id)) = some (some 0) ∧
    ((histRun (fun _ => false) (evs ++ [.ck .delete])).ck.isNone) := by decide +kernel

end Monorail
