import Monorail.Props.C04
import Monorail.Props.C03
import Monorail.Proofs.Select
/-!
# C04 — from the configuration to the trace

`Props/C04.lean` states the executor's guarantee for plan positions. Here the plan is the one
`get_plan` lays out from the target groups `handle_run` selected (`Model/Select.lean`), and the
groups come from the configuration through `Index::new` (C10) and the layering (C03): the guarantee
becomes a statement about targets, their declared dependencies and commands.
-/
namespace Monorail

/-- The guarantee of `c04_dep` at the plan positions `planOf_group` computes: member `u` of group
`kU` under command `c'` has completed before member `t` of group `kT` under command `c` is started,
whenever `(c', kU)` comes before `(c, kT)` in the plan. -/
theorem c04_plan_pos (n ncmd : Nat) (disp : Nat → Nat → Disp) (groups : List (List Nat))
    (hnd : groups.flatten.Nodup) (hlt : ∀ x ∈ groups.flatten, x < n) {c' c kU kT : Nat}
    {GU GT : List Nat} (hkU : groups[kU]? = some GU) (hkT : groups[kT]? = some GT) {u t : Nat}
    (hu : u ∈ GU) (ht : t ∈ GT) (hpos : c' < c ∨ (c' = c ∧ kU < kT)) (hc : c < ncmd) (fou : Bool)
    (inputs : List (Nat × Outcome)) {pre post : List Ev} {g : Nat}
    (h : (runExec fou (planOf n ncmd disp groups) inputs).trace = pre ++ Ev.spawn g (taskId n c t) :: post)
    {g' : Nat} (hus : Ev.spawn g' (taskId n c' u) ∈ (runExec fou (planOf n ncmd disp groups) inputs).trace) :
    ∃ oc, Ev.done (taskId n c' u) oc ∈ pre := by
  have hkUlt := (List.getElem?_eq_some_iff.mp hkU).1
  obtain ⟨hc', hlt'⟩ : c' < ncmd ∧ c' * groups.length + kU < c * groups.length + kT := by
    rcases hpos with hcc | ⟨rfl, hk⟩
    · exact ⟨Nat.lt_trans hcc hc,
        calc c' * groups.length + kU < c' * groups.length + groups.length := Nat.add_lt_add_left hkUlt _
          _ = (c' + 1) * groups.length := (Nat.succ_mul _ _).symm
          _ ≤ c * groups.length := Nat.mul_le_mul_right _ hcc
          _ ≤ c * groups.length + kT := Nat.le_add_right _ _⟩
    · exact ⟨hc, Nat.add_lt_add_left hk _⟩
  exact c04_dep fou _ (planIds_nodup n disp groups hnd hlt ncmd) inputs
    (planOf_group n disp groups hc' hkU) (planOf_group n disp groups hc hkT)
    (List.mem_map_of_mem hu) (List.mem_map_of_mem ht) hlt' h hus

/-- **C04 (a dependency's executable has exited).** For target groups in which `u` is in a strictly
earlier group than `t`, every command `c` and every schedule: when the executable of `(c, t)` is
started, the executable of `(c, u)` - if it was started at all - has completed. -/
theorem c04_plan_dep (n ncmd : Nat) (disp : Nat → Nat → Disp) (groups : List (List Nat))
    (hnd : groups.flatten.Nodup) (hlt : ∀ x ∈ groups.flatten, x < n) {u t : Nat}
    (hB : Before groups u t) {c : Nat} (hc : c < ncmd) (fou : Bool) (inputs : List (Nat × Outcome))
    {pre post : List Ev} {g : Nat}
    (h : (runExec fou (planOf n ncmd disp groups) inputs).trace = pre ++ Ev.spawn g (taskId n c t) :: post)
    {g' : Nat} (hus : Ev.spawn g' (taskId n c u) ∈ (runExec fou (planOf n ncmd disp groups) inputs).trace) :
    ∃ oc, Ev.done (taskId n c u) oc ∈ pre := by
  obtain ⟨kU, kT, GU, GT, hk, hkU, hkT, hu, ht⟩ := before_index hB
  exact c04_plan_pos n ncmd disp groups hnd hlt hkU hkT hu ht (Or.inr ⟨rfl, hk⟩) hc fou inputs h hus

/-- **C04 (commands in order).** No executable of a later command is started before every started
executable of an earlier command has completed - for every pair of selected targets, whatever the
graph says about them. -/
theorem c04_plan_cmd (n ncmd : Nat) (disp : Nat → Nat → Disp) (groups : List (List Nat))
    (hnd : groups.flatten.Nodup) (hlt : ∀ x ∈ groups.flatten, x < n) {u t : Nat}
    (hu : u ∈ groups.flatten) (ht : t ∈ groups.flatten) {c' c : Nat} (hcc : c' < c) (hc : c < ncmd)
    (fou : Bool) (inputs : List (Nat × Outcome)) {pre post : List Ev} {g : Nat}
    (h : (runExec fou (planOf n ncmd disp groups) inputs).trace = pre ++ Ev.spawn g (taskId n c t) :: post)
    {g' : Nat} (hus : Ev.spawn g' (taskId n c' u) ∈ (runExec fou (planOf n ncmd disp groups) inputs).trace) :
    ∃ oc, Ev.done (taskId n c' u) oc ∈ pre := by
  obtain ⟨GU, hGU, huG⟩ := List.mem_flatten.mp hu
  obtain ⟨GT, hGT, htG⟩ := List.mem_flatten.mp ht
  obtain ⟨kU, hkU⟩ := List.getElem?_of_mem hGU
  obtain ⟨kT, hkT⟩ := List.getElem?_of_mem hGT
  exact c04_plan_pos n ncmd disp groups hnd hlt hkU hkT huG htG (Or.inl hcc) hc fou inputs h hus

theorem flatten_singletons (ts : List Nat) : (ts.map (fun t => [t])).flatten = ts :=
  List.flatMap_singleton' ts

theorem labeled_wellformed {g : Graph} {roots : List Nat} {lgs : List (List Nat)}
    (h : labeledGroups g roots = .ok lgs) : lgs.flatten.Nodup ∧ ∀ x ∈ lgs.flatten, x < g.size :=
  have hp := labeled_flatten_perm h
  ⟨hp.nodup_iff.mpr (closure_nodup g _), fun x hx => closure_lt g _ x (hp.mem_iff.mp hx)⟩

/-- `run` without `-t`: the groups of all targets, pruned to the changed ones -/
theorem selectGroups_changed {g : Graph} {ch : List Nat} {groups : List (List Nat)}
    (h : selectGroups g (.changed ch) = .ok groups) :
    ∃ lgs, labeledGroups g (List.range g.size) = .ok lgs ∧ groups = prune (fun t => ch.contains t) lgs := by
  simp only [selectGroups] at h
  split at h
  · exact ⟨_, ‹_›, (Except.ok.inj h).symm⟩
  · cases h

/-- the groups `handle_run` selects hold every selected target once, and only configured targets -/
theorem selectGroups_wellformed {g : Graph} {sel : Selection} {groups : List (List Nat)}
    (hsel : selectGroups g sel = .ok groups)
    (hnamed : ∀ ts, sel = .named ts → ts.Nodup ∧ ∀ t ∈ ts, t < g.size) :
    groups.flatten.Nodup ∧ ∀ x ∈ groups.flatten, x < g.size := by
  cases sel with
  | changed ch =>
    obtain ⟨lgs, hl, rfl⟩ := selectGroups_changed hsel
    obtain ⟨hnd, hlt⟩ := labeled_wellformed hl
    rewrite [prune_flatten]
    exact ⟨hnd.filter _, fun x hx => hlt x (List.mem_filter.mp hx).1⟩
  | named ts =>
    cases hsel
    rewrite [flatten_singletons]
    exact hnamed ts rfl
  | deps roots => exact labeled_wellformed hsel

/-- **C04 (from the configuration to the trace).** For every configuration whose target paths name
pairwise different normal directories (with or without a trailing separator), for `run` without
`-t` (whatever `analyze` reported as changed) and for `run -t .. --deps`, every list of commands,
every resolution of commands to executables and every schedule: if target `T` depends on target `U`
(`U`'s directory encloses `T`'s, or equals or encloses one of `T`'s `uses` entries) and both are
part of the run, then for each command the executable of `T` is not started until the executable of
`U` - if it was started at all - has completed. -/
theorem c04_config {cfg : Config} (hwf : WFD cfg) {sel : Selection} {groups : List (List Nat)}
    (hsel : selectGroups (graphOf cfg) sel = .ok groups) (hmode : ∀ ts, sel ≠ .named ts)
    {i j : Nat} {T U : Target} (hT : cfg[i]? = some T) (hU : cfg[j]? = some U) (hne : j ≠ i)
    (hd : DependsOnD T U) (hi : i ∈ groups.flatten) (hj : j ∈ groups.flatten)
    (ncmd : Nat) (disp : Nat → Nat → Disp) {c : Nat} (hc : c < ncmd) (fou : Bool)
    (inputs : List (Nat × Outcome)) {pre post : List Ev} {gp : Nat}
    (h : (runExec fou (planOf cfg.length ncmd disp groups) inputs).trace =
      pre ++ Ev.spawn gp (taskId cfg.length c i) :: post)
    {gp' : Nat} (hus : Ev.spawn gp' (taskId cfg.length c j) ∈
      (runExec fou (planOf cfg.length ncmd disp groups) inputs).trace) :
    ∃ oc, Ev.done (taskId cfg.length c j) oc ∈ pre := by
  have hwfg := selectGroups_wellformed hsel (fun ts hts => absurd hts (hmode ts))
  rewrite [graphOf_size] at hwfg
  have hB : Before groups j i := by
    cases sel with
    | named ts => exact absurd rfl (hmode ts)
    | deps roots =>
      have hl : labeledGroups (graphOf cfg) roots = .ok groups := hsel
      exact c03_index_order_dir hwf hl hT hU hne hd ((labeled_flatten_perm hl).mem_iff.mp hi)
    | changed ch =>
      obtain ⟨lgs, hl, rfl⟩ := selectGroups_changed hsel
      have hi' := (c03_prune_mem _ lgs i).mp hi
      have hj' := (c03_prune_mem _ lgs j).mp hj
      exact c03_prune_order _
        (c03_index_order_dir hwf hl hT hU hne hd ((labeled_flatten_perm hl).mem_iff.mp hi'.1)) hi'.2 hj'.2
  exact c04_plan_dep cfg.length ncmd disp groups hwfg.1 hwfg.2 hB hc fou inputs h hus

/-! ## Non-vacuity: `core/` declared with a trailing slash, `app` uses `core`; `run -t app --deps`
with two commands and a schedule in which every executable exits 0 -/

example : wfDB exCfgSlash = true := by decide +kernel
example : selectGroups (graphOf exCfgSlash) (.deps [1]) = .ok [[0], [1]] := by decide +kernel
example : selectGroups (graphOf exCfgSlash) (.changed [1, 3, 0]) = .ok [[0], [1, 3]] := by decide +kernel
example : (runExec false (planOf 4 2 (fun _ _ => .run) [[0], [1]]) [(0, .code 0), (1, .code 0), (4, .code 0), (5, .code 0)]).trace =
    [.spawn 0 0, .done 0 (.code 0), .spawn 1 1, .done 1 (.code 0), .spawn 2 4, .done 4 (.code 0),
     .spawn 3 5, .done 5 (.code 0)] := by decide +kernel

end Monorail
