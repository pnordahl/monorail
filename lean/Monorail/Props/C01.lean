import Monorail.Props.C10
import Monorail.Proofs.Analyze
import Monorail.Generated.Consts
/-!
# C01 — change-to-target mapping is exact

Only property theorems and their non-vacuity examples live in this file.
-/
namespace Monorail

/-- **C01 (per change, exact; trailing separators).** For configurations whose target paths name
pairwise different normal directories and whose `uses` / `ignores` entries name normal paths, each
written with or without one trailing separator, and for every changed path that is not itself the
directory such an entry names (a change is a file): `analyze_change` puts `t` into the summary set
exactly when `t` is the path of a configured target affected by `p` (`AffectedD`, strict reading of
the documented grey case). Each test the code makes is one clause of the specification. -/
theorem c01_change_exact_dir {cfg : Config} (h : WFAD cfg) (p t : Path) (hp : ChangeOk cfg p) :
    t ∈ (analyzeChange cfg p).targets ↔ ∃ T, T.path = t ∧ AffectedD true cfg p T := by
  rewrite [mem_analyzeChange_hits, List.mem_map, ← exists_and_right]
  refine exists_congr fun T => ?_
  rewrite [and_comm (a := T ∈ cfg), and_assoc]
  refine and_congr_right fun ht => and_congr_right fun hT => ?_
  subst ht
  -- `T` not ignored, and the change inside `T`'s own directory ...
  rewrite [ign_iff_dir h hT hp, hit_dir (h.normalT T hT) (hp.target T hT)]
  refine and_congr_right fun _ => or_congr_right <| exists_congr fun N => and_congr_right fun hN => ?_
  -- ... or a target `N` inside `T`, not ignored ...
  rewrite [hit_targets h.toWFD hT hN, ign_iff_dir h hN hp]
  refine and_congr_right fun _ => and_congr_right fun _ =>
    exists_congr fun m => and_congr_right fun hm => ?_
  -- ... with a `uses` entry `m` that covers the change and counts
  rewrite [hit_dir (h.normalU N hN m hm) (hp.uses N hN m hm), useCounts_iff_dir h hp m]
  exact and_congr_right fun _ => ⟨fun huc _ => huc, fun huc => huc rfl⟩

/-- **C01 (whole analysis; trailing separators).** -/
theorem c01_analyze_exact_dir {cfg : Config} (h : WFAD cfg) (cs : List Path) {k : Nat} (hk : 0 < k) (t : Path)
    (hp : ∀ p ∈ cs, ChangeOk cfg p) :
    t ∈ (analyze cfg cs k).targets ↔ ∃ p ∈ cs, ∃ T, T.path = t ∧ AffectedD true cfg p T := by
  rewrite [mem_analyze_targets hk]
  exact exists_congr fun p => and_congr_right fun hpc => c01_change_exact_dir h p t (hp p hpc)

/-- **C01 (per change, exact).** For every configuration with distinct targets and normal paths, and
every changed path `p`: `analyze_change` puts `t` into the summary set exactly when `t` is the path
of a configured target affected by `p` in the sense of the specification (strict reading of the
documented grey case) — whole path components, never raw string prefixes. -/
theorem c01_change_exact {cfg : Config} (h : WFA cfg) (p t : Path) :
    t ∈ (analyzeChange cfg p).targets ↔ ∃ T, T.path = t ∧ Affected true cfg p T := by
  rewrite [c01_change_exact_dir h.toWFAD p t (changeOk_of_wfa h p)]
  simp only [affectedD_normal h]

/-- the strict reading of the grey case is contained in the loose one (the oracle's sandwich) -/
theorem c01_strict_loose {cfg : Config} {p : Path} {T : Target} (h : Affected true cfg p T) :
    Affected false cfg p T := by
  obtain ⟨hT, hni, hd | ⟨N, hN, hw, hNi, m, hm, hwm, _⟩⟩ := h
  · exact ⟨hT, hni, Or.inl hd⟩
  · exact ⟨hT, hni, Or.inr ⟨N, hN, hw, hNi, m, hm, hwm, Bool.false_ne_true.elim⟩⟩

/-- The property text's recursive reading: affected through its own directory, its own `uses`, or a
nested target that is itself affected. -/
inductive AffectedRec (cfg : Config) (p : Path) : Target → Prop
  | dir {T : Target} : T ∈ cfg → ¬ Ign T p → Within T.path p → AffectedRec cfg p T
  | uses {T : Target} {u : Path} : T ∈ cfg → ¬ Ign T p → u ∈ T.uses → Within u p → AffectedRec cfg p T
  | nested {T N : Target} : T ∈ cfg → ¬ Ign T p → Within T.path N.path → AffectedRec cfg p N →
      AffectedRec cfg p T

/-- **C01 (the closed form is the recursive reading).** -/
theorem c01_rec_iff {cfg : Config} {p : Path} {T : Target} :
    AffectedRec cfg p T ↔ Affected false cfg p T := by
  constructor
  · intro h
    induction h with
    | dir hT hni hw => exact ⟨hT, hni, Or.inl hw⟩
    | @uses T u hT hni hu hw =>
      exact ⟨hT, hni, Or.inr ⟨T, hT, within_refl _, hni, u, hu, hw, Bool.false_ne_true.elim⟩⟩
    | nested hT hni hw _ ih =>
      exact ⟨hT, hni, ih.2.2.imp (within_trans hw)
        (Exists.imp fun _ => And.imp_right (And.imp_left (within_trans hw)))⟩
  · rintro ⟨hT, hni, hd | ⟨N, hN, hw, hNi, m, hm, hwm, _⟩⟩
    · exact .dir hT hni hd
    · exact .nested hT hni hw (.uses hN hNi hm hwm)

/-- **C01 (summary = union over the changes), for every positive batch size.** -/
theorem c01_summary {cfg : Config} (h : WFA cfg) (cs : List Path) {k : Nat} (hk : 0 < k) (t : Path) :
    t ∈ (analyze cfg cs k).targets ↔ ∃ p ∈ cs, ∃ T, T.path = t ∧ Affected true cfg p T := by
  rewrite [c01_analyze_exact_dir h.toWFAD cs hk t fun p _ => changeOk_of_wfa h p]
  simp only [affectedD_normal h]

/-- **C01 (sorted, duplicate-free).** The summary is strictly increasing in byte order. -/
theorem c01_sorted (cfg : Config) (cs : List Path) (k : Nat) :
    (analyze cfg cs k).targets.Pairwise (fun a b => pathLt a b = true) :=
  sortDedupBy_sorted pathLt_strict _

/-- **C01 (independent of order, number and batching of the changes).** Two change lists with the
same members — in any order, with any multiplicities — analysed with any positive batch sizes give
the identical summary list. No well-formedness hypothesis is needed. -/
theorem c01_batch_indep (cfg : Config) (cs cs' : List Path) {k k' : Nat} (hk : 0 < k) (hk' : 0 < k')
    (hsame : ∀ p, p ∈ cs ↔ p ∈ cs') :
    (analyze cfg cs k).targets = (analyze cfg cs' k').targets := by
  apply sorted_ext pathLt_strict (c01_sorted _ _ _) (c01_sorted _ _ _)
  intro t
  rewrite [mem_analyze_targets hk, mem_analyze_targets hk']
  exact exists_congr fun p => and_congr_left fun _ => hsame p

/-- the batch size the code uses today is positive (regenerated from `/repo` on every run) -/
theorem c01_batchSize_pos : 0 < Consts.batchSize := by decide

/-- **C01 (summary = non-ignored entries of the per-change breakdown).** -/
theorem c01_breakdown_union (cfg : Config) (p t : Path) :
    t ∈ (analyzeChange cfg p).targets ↔
      ∃ r, r ≠ Reason.ignores ∧ (t, r) ∈ (analyzeChange cfg p).breakdown := by
  rewrite [mem_analyzeChange_targets]
  simp only [analyzeChange, List.mem_append, List.mem_map, Prod.mk.injEq, List.contains_iff_mem]
  constructor
  · rintro ⟨hd | hv, hni⟩
    · exact ⟨.target, Reason.noConfusion, .inl ⟨t, hd, rfl, if_neg hni⟩⟩
    · exact ⟨.uses, Reason.noConfusion, .inr ⟨t, hv, rfl, if_neg hni⟩⟩
  · rintro ⟨r, hr, ⟨t', ht', rfl, hre⟩ | ⟨t', ht', rfl, hre⟩⟩
    · exact ⟨.inl ht', fun hi => hr (hre ▸ if_pos hi)⟩
    · exact ⟨.inr ht', fun hi => hr (hre ▸ if_pos hi)⟩

/-! ## The oracle evaluated on implementation output is the specification -/

theorem ignB_iff (T : Target) (p : Path) : ignB T p = true ↔ Ign T p := by
  simp only [ignB, Ign, List.any_eq_true, withinB_iff]

theorem useCountsB_iff (cfg : Config) (p u : Path) : useCountsB cfg p u = true ↔ UseCounts cfg p u := by
  simp only [useCountsB, UseCounts, Bool.not_eq_true', ← Bool.not_eq_true, List.any_eq_true,
    Bool.and_eq_true, beq_iff_eq, ignB_iff]

theorem affectedB_iff (strict : Bool) {cfg : Config} {p : Path} {T : Target} (hT : T ∈ cfg) :
    affectedB strict cfg p T = true ↔ Affected strict cfg p T := by
  simp only [affectedB, Affected, hT, true_and, Bool.and_eq_true, Bool.or_eq_true, Bool.not_eq_true',
    ← Bool.not_eq_true, List.any_eq_true, withinB_iff, ignB_iff, useCountsB_iff, and_assoc,
    Decidable.imp_iff_not_or]

theorem ignDB_iff (T : Target) (p : Path) : ignDB T p = true ↔ IgnD T p := by
  simp only [ignDB, IgnD, List.any_eq_true, withinB_iff]

theorem useCountsDB_iff (cfg : Config) (p u : Path) : useCountsDB cfg p u = true ↔ UseCountsD cfg p u := by
  simp only [useCountsDB, UseCountsD, Bool.not_eq_true', ← Bool.not_eq_true, List.any_eq_true,
    Bool.and_eq_true, beq_iff_eq, ignDB_iff]

theorem affectedDB_iff (strict : Bool) {cfg : Config} {p : Path} {T : Target} (hT : T ∈ cfg) :
    affectedDB strict cfg p T = true ↔ AffectedD strict cfg p T := by
  simp only [affectedDB, AffectedD, hT, true_and, Bool.and_eq_true, Bool.or_eq_true, Bool.not_eq_true',
    ← Bool.not_eq_true, List.any_eq_true, withinB_iff, ignDB_iff, useCountsDB_iff, and_assoc,
    Decidable.imp_iff_not_or]

theorem wfAllB_iff (cfg : Config) : wfAllB cfg = true ↔ WFA cfg := by
  simp only [wfAllB, Bool.and_eq_true, List.all_eq_true, normalB_iff, wfB_iff]
  exact ⟨fun h => ⟨h.1.nodup, h.1.normal, fun t ht => (h.2 t ht).1, fun t ht => (h.2 t ht).2⟩,
    fun h => ⟨h.toWF, fun t ht => ⟨h.normalU t ht, h.normalI t ht⟩⟩⟩

/-- the driver applies the oracle exactly on the domain of the theorem -/
theorem wfAllDB_iff (cfg : Config) : wfAllDB cfg = true ↔ WFAD cfg := by
  simp only [wfAllDB, Bool.and_eq_true, List.all_eq_true, normalB_iff, wfDB_iff]
  exact ⟨fun h => ⟨h.1.nodup, h.1.normal, fun t ht => (h.2 t ht).1, fun t ht => (h.2 t ht).2⟩,
    fun h => ⟨h.toWFD, fun t ht => ⟨h.normalU t ht, h.normalI t ht⟩⟩⟩

theorem changeOkB_spec {cfg : Config} {p : Path} (h : changeOkB cfg p = true) : ChangeOk cfg p := by
  simp only [changeOkB, slashed, Bool.and_eq_true, List.all_eq_true, Bool.not_eq_true',
    ← Bool.not_eq_true, beq_iff_eq, not_and] at h
  exact ⟨fun T hT => (h.2 T hT).1.1, fun T hT => (h.2 T hT).1.2, fun T hT => (h.2 T hT).2⟩

/-- `core/` declared with a trailing separator, `app` uses `core/api`, `core/sub` nested:
the change `core/api/x` affects `core/` (its directory) and `app` (its uses entry), not `core/sub` -/
def exCfg01Slash : Config :=
  [ { path := [99,111,114,101,47], uses := [], ignores := [] },
    { path := [97,112,112], uses := [[99,111,114,101,47,97,112,105]], ignores := [] },
    { path := [99,111,114,101,47,115,117,98], uses := [], ignores := [] } ]

example : wfAllDB exCfg01Slash = true ∧ changeOkB exCfg01Slash [99,111,114,101,47,97,112,105,47,120] = true := by decide +kernel
/-- a `uses` entry written `sh/`: a change `sh/f` affects the declaring target -/
example : (analyze [{ path := [97], uses := [[115,104,47]], ignores := [] }, { path := [98], uses := [], ignores := [] }]
    [[115,104,47,102]] 50).targets = [[97]] ∧
    wfAllDB [{ path := [97], uses := [[115,104,47]], ignores := [] }, { path := [98], uses := [], ignores := [] }] = true := by decide +kernel
example : (analyze exCfg01Slash [[99,111,114,101,47,97,112,105,47,120]] 50).targets = [[97,112,112],[99,111,114,101,47]] := by decide +kernel

/-- `top`, `top/inner` (uses `shared`), `app`, `app2` (ignores `app2/docs`) -/
def exCfg01 : Config :=
  [ { path := [116,111,112], uses := [], ignores := [] },
    { path := [116,111,112,47,105,110], uses := [[115,104]], ignores := [] },
    { path := [97,112,112], uses := [], ignores := [] },
    { path := [97,112,112,50], uses := [], ignores := [[97,112,112,50,47,100]] } ]

theorem exCfg01_wfa : WFA exCfg01 := (wfAllB_iff exCfg01).mp (by decide +kernel)

/-- changes `sh/f` (affects `top/inner` through uses, hence `top`), `app2/x`, `app2/d/y` (ignored) -/
example : (analyze exCfg01 [[115,104,47,102],[97,112,112,50,47,120],[97,112,112,50,47,100,47,121]] 50).targets
    = [[97,112,112,50],[116,111,112],[116,111,112,47,105,110]] := by decide +kernel

end Monorail
