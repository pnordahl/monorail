import Monorail.Proofs.ExecInv
/-!
# C05 — a run covers exactly the planned (command, target) pairs, once each
-/
namespace Monorail

/-- **C05 (one result entry per planned pair).** When the run has finished (nothing is running),
the ids in the result document are a permutation of the planned ids — every planned pair appears,
and (for distinct planned ids) appears exactly once, and nothing else appears. -/
theorem c05_cover (fou : Bool) (plan : List Group) (inputs : List (Nat × Outcome))
    (hfin : (runExec fou plan inputs).running = []) :
    (rIds (runExec fou plan inputs).results).Perm (planIds plan) := by
  have inv := runExec_inv fou plan inputs
  have hp := inv.perm
  rewrite [hfin, inv.stop hfin] at hp
  simpa only [planIds, List.flatMap_nil, List.append_nil] using hp

/-- **C05 (never two entries for one pair), at every moment of every schedule.** -/
theorem c05_results_nodup (fou : Bool) (plan : List Group) (hnd : (planIds plan).Nodup)
    (inputs : List (Nat × Outcome)) : (rIds (runExec fou plan inputs).results).Nodup :=
  (List.nodup_append.mp ((runExec_inv fou plan inputs).nodup hnd)).1

/-- **C05 (started at most once).** Under every schedule no executable is started twice. -/
theorem c05_spawn_once (fou : Bool) (plan : List Group) (hnd : (planIds plan).Nodup)
    (inputs : List (Nat × Outcome)) : (spawnIds (runExec fou plan inputs).trace).Nodup := by
  have inv := runExec_inv fou plan inputs
  rewrite [inv.spawned.nodup_iff]
  exact ((List.Sublist.refl _).append (List.filter_sublist.map _)).nodup
    (List.perm_append_comm.nodup_iff.mp (inv.nodup hnd))

/-- **C05 (only defined commands are started).** Every started executable belongs to a planned pair
whose command resolves to an executable file; a pair whose command is undefined (or not executable)
is never started. -/
theorem c05_only_defined (fou : Bool) (plan : List Group) (inputs : List (Nat × Outcome)) {g i : Nat}
    (h : Ev.spawn g i ∈ (runExec fou plan inputs).trace) :
    ∃ grp ∈ plan, ∃ t ∈ grp, t.id = i ∧ t.disp = .run :=
  (runExec_inv fou plan inputs).disp g i h

/-- **C05 (started exactly once when nothing failed).** If the finished run reports
`failed = false`, every planned pair whose command resolves to an executable was started (and, by
`c05_spawn_once`, exactly once). -/
theorem c05_started_when_ok (fou : Bool) (plan : List Group) (hnd : (planIds plan).Nodup)
    (inputs : List (Nat × Outcome))
    (hfin : (runExec fou plan inputs).running = []) (hok : (runExec fou plan inputs).failed = false)
    {G : Group} (hG : G ∈ plan) {t : Task} (ht : t ∈ G) (hrun : t.disp = .run) :
    t.id ∈ spawnIds (runExec fou plan inputs).trace := by
  have inv := runExec_inv fou plan inputs
  obtain ⟨e, he, hei⟩ := List.mem_map.mp ((c05_cover fou plan inputs hfin).mem_iff.mpr
    (List.mem_flatMap.mpr ⟨G, hG, List.mem_map_of_mem ht⟩))
  cases hs : isSpawnStatus e.2
  · -- an entry filed at scheduling belongs to `t` itself; with an executable it can only be `skipped`
    exfalso
    obtain ⟨G', hG', t', ht', hid', hok'⟩ := inv.entry e he hs
    obtain ⟨k, hk⟩ := List.getElem?_of_mem hG
    obtain ⟨k', hk'⟩ := List.getElem?_of_mem hG'
    obtain rfl : t' = t := (id_unique hnd hk' hk ht' ht (hid'.trans hei)).2
    exact absurd (hok.symm.trans (inv.skip e he (hok'.skipped_of_run hrun))) Bool.false_ne_true
  · exact inv.spawned.mem_iff.mpr (List.mem_append_right _
      (List.mem_map.mpr ⟨e, List.mem_filter.mpr ⟨he, hs⟩, hei⟩))

example : let s := runExec true [[⟨0, .run⟩, ⟨1, .undefined⟩, ⟨2, .run⟩], [⟨3, .run⟩]] [(0, .code 0)]
    s.running = [] ∧ rIds s.results = [1, 2, 0, 3] ∧ spawnIds s.trace = [0] ∧ s.failed = true := by decide +kernel

example : let s := runExec false [[⟨0, .run⟩, ⟨1, .undefined⟩, ⟨2, .run⟩], [⟨3, .run⟩]] [(2, .code 0), (0, .code 0), (3, .code 0)]
    s.running = [] ∧ s.failed = false ∧ spawnIds s.trace = [0, 2, 3] := by decide +kernel

end Monorail
