import Monorail.Model.Exec
/-! Ordering facts about event traces that grow by completions and by blocks of spawns. -/
namespace Monorail

/-- every spawn before a spawn of a *different* group has completed before it -/
def Barrier (tr : List Ev) : Prop :=
  ∀ pre g a post, tr = pre ++ Ev.spawn g a :: post →
    ∀ g' b, Ev.spawn g' b ∈ pre → g' ≠ g → ∃ oc, Ev.done b oc ∈ pre

/-- between two spawns of the same group there are only spawns of that group -/
def Contig (tr : List Ev) : Prop :=
  ∀ pre g a mid b post, tr = pre ++ Ev.spawn g a :: (mid ++ Ev.spawn g b :: post) →
    ∀ e ∈ mid, ∃ c, e = Ev.spawn g c

/-- every spawn in the trace has completed -/
def Complete (tr : List Ev) : Prop := ∀ g b, Ev.spawn g b ∈ tr → ∃ oc, Ev.done b oc ∈ tr

/-- groups are entered in plan order -/
def Ordered (tr : List Ev) : Prop :=
  ∀ pre g a post, tr = pre ++ Ev.spawn g a :: post → ∀ g' b, Ev.spawn g' b ∈ pre → g' ≤ g

theorem split_append {α : Type} {tr B pre post : List α} {x : α} (h : tr ++ B = pre ++ x :: post) :
    (∃ post', tr = pre ++ x :: post' ∧ post = post' ++ B) ∨
    (∃ pre', pre = tr ++ pre' ∧ B = pre' ++ x :: post) := by
  rcases List.append_eq_append_iff.mp h with ⟨pre', hpre, hB⟩ | ⟨c, htr, hc⟩
  · exact .inr ⟨pre', hpre, hB⟩
  · rcases List.cons_eq_append_iff.mp hc with ⟨rfl, hB⟩ | ⟨post', rfl, hpost⟩
    · exact .inr ⟨[], by rw [htr, List.append_nil, List.append_nil], hB⟩
    · exact .inl ⟨post', htr, hpost⟩

/-- `Barrier`, `Ordered` and (see `contig_iff`) `Contig` say something of the events before each
spawn. Such a property of `tr` extends to `tr ++ B` once it is known at the spawns inside `B`. -/
theorem before_spawns_append {Q : List Ev → Nat → Prop} {tr B : List Ev}
    (h : ∀ pre g a post, tr = pre ++ Ev.spawn g a :: post → Q pre g)
    (hB : ∀ pre g a post, B = pre ++ Ev.spawn g a :: post → Q (tr ++ pre) g) :
    ∀ pre g a post, tr ++ B = pre ++ Ev.spawn g a :: post → Q pre g := by
  intro pre g a post heq
  rcases split_append heq with ⟨post', htr, _⟩ | ⟨pre', rfl, hB'⟩
  · exact h pre g a post' htr
  · exact hB pre' g a post hB'

theorem before_spawns_append_done {Q : List Ev → Nat → Prop} {tr : List Ev}
    (h : ∀ pre g a post, tr = pre ++ Ev.spawn g a :: post → Q pre g) (i : Nat) (oc : Outcome) :
    ∀ pre g a post, tr ++ [Ev.done i oc] = pre ++ Ev.spawn g a :: post → Q pre g :=
  before_spawns_append h fun pre _ _ post hB =>
    Ev.noConfusion (List.mem_singleton.mp (List.mem_iff_append.mpr ⟨pre, post, hB⟩))

theorem block_split {gnew g a : Nat} {ids : List Nat} {pre post : List Ev}
    (h : ids.map (Ev.spawn gnew) = pre ++ Ev.spawn g a :: post) :
    g = gnew ∧ ∀ e ∈ pre, ∃ c, e = Ev.spawn gnew c := by
  have hm : ∀ e ∈ pre ++ Ev.spawn g a :: post, ∃ c, e = Ev.spawn gnew c :=
    h ▸ fun e he => (List.mem_map.mp he).imp fun c hc => hc.2.symm
  obtain ⟨c, hc⟩ := hm (Ev.spawn g a) (List.mem_append_right _ List.mem_cons_self)
  cases hc
  exact ⟨rfl, fun e he => hm e (List.mem_append_left _ he)⟩

theorem contig_iff {tr : List Ev} : Contig tr ↔
    ∀ pre' g b post, tr = pre' ++ Ev.spawn g b :: post →
      ∀ pre a mid, pre' = pre ++ Ev.spawn g a :: mid → ∀ e ∈ mid, ∃ c, e = Ev.spawn g c := by
  constructor
  · intro h pre' g b post htr pre a mid hpre
    subst hpre
    exact h pre g a mid b post (htr.trans (List.append_assoc ..))
  · intro h pre g a mid b post htr
    exact h (pre ++ Ev.spawn g a :: mid) g b post
      (htr.trans (List.append_assoc pre (Ev.spawn g a :: mid) _).symm) pre a mid rfl

theorem before_spawns_nil {Q : List Ev → Nat → Prop} :
    ∀ pre g a post, [] = pre ++ Ev.spawn g a :: post → Q pre g :=
  fun _ _ _ _ h => absurd h.symm (List.append_ne_nil_of_right_ne_nil _ (List.cons_ne_nil _ _))

theorem barrier_nil : Barrier [] := before_spawns_nil

theorem contig_nil : Contig [] := contig_iff.mpr before_spawns_nil

theorem ordered_nil : Ordered [] := before_spawns_nil

theorem barrier_append_done {tr : List Ev} (h : Barrier tr) (i : Nat) (oc : Outcome) :
    Barrier (tr ++ [Ev.done i oc]) :=
  before_spawns_append_done h i oc

theorem ordered_append_done {tr : List Ev} (h : Ordered tr) (i : Nat) (oc : Outcome) :
    Ordered (tr ++ [Ev.done i oc]) :=
  before_spawns_append_done h i oc

theorem contig_append_done {tr : List Ev} (h : Contig tr) (i : Nat) (oc : Outcome) :
    Contig (tr ++ [Ev.done i oc]) :=
  contig_iff.mpr (before_spawns_append_done (contig_iff.mp h) i oc)

theorem barrier_append_spawns {tr : List Ev} (h : Barrier tr) (hc : Complete tr) (gnew : Nat)
    (ids : List Nat) : Barrier (tr ++ ids.map (Ev.spawn gnew)) := by
  refine before_spawns_append h fun pre g a post hB g' b hb hne => ?_
  obtain ⟨rfl, hpre⟩ := block_split hB
  rcases List.mem_append.mp hb with hb | hb
  · exact (hc g' b hb).imp fun oc hoc => List.mem_append_left _ hoc
  · obtain ⟨c, hc'⟩ := hpre _ hb
    cases hc'
    exact absurd rfl hne

theorem ordered_append_spawns {tr : List Ev} (h : Ordered tr) (gnew : Nat)
    (hle : ∀ g' b, Ev.spawn g' b ∈ tr → g' ≤ gnew) (ids : List Nat) :
    Ordered (tr ++ ids.map (Ev.spawn gnew)) := by
  refine before_spawns_append h fun pre g a post hB g' b hb => ?_
  obtain ⟨rfl, hpre⟩ := block_split hB
  rcases List.mem_append.mp hb with hb | hb
  · exact hle g' b hb
  · obtain ⟨c, hc'⟩ := hpre _ hb
    cases hc'
    exact Nat.le_refl _

theorem contig_append_spawns {tr : List Ev} (h : Contig tr) (gnew : Nat)
    (hfresh : ∀ g' b, Ev.spawn g' b ∈ tr → g' ≠ gnew) (ids : List Nat) :
    Contig (tr ++ ids.map (Ev.spawn gnew)) := by
  refine contig_iff.mpr (before_spawns_append (contig_iff.mp h) fun pre' g b post hB pre a mid hpre => ?_)
  obtain ⟨rfl, hblock⟩ := block_split hB
  -- the earlier spawn of `g` cannot lie in `tr`, so everything after it lies in the block
  rcases split_append hpre with ⟨_, htr, _⟩ | ⟨_, _, rfl⟩
  · exact absurd rfl (hfresh g a (htr ▸ List.mem_append_right _ List.mem_cons_self))
  · exact fun e he => hblock e (List.mem_append_right _ (List.mem_cons_of_mem _ he))

end Monorail
