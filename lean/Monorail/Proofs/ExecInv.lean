import Monorail.Proofs.Exec
import Monorail.Proofs.Trace
/-! The invariant of the executor machine, established by `startExec` and preserved by `stepExec`. -/
namespace Monorail

def spawnIds (tr : List Ev) : List Nat :=
  tr.filterMap (fun e => match e with | .spawn _ i => some i | .done _ _ => none)

def isSpawnStatus : Status → Bool
  | .success => true
  | .error _ => true
  | _ => false

theorem mem_spawnIds {tr : List Ev} {i : Nat} : i ∈ spawnIds tr ↔ ∃ g, Ev.spawn g i ∈ tr := by
  refine List.mem_filterMap.trans ⟨?_, ?_⟩
  · rintro ⟨e, he, hm⟩
    cases e with
    | spawn g j => cases hm; exact ⟨g, he⟩
    | done j oc => cases hm
  · rintro ⟨g, hg⟩
    exact ⟨Ev.spawn g i, hg, rfl⟩

theorem spawnIds_append (a b : List Ev) : spawnIds (a ++ b) = spawnIds a ++ spawnIds b :=
  List.filterMap_append

theorem spawnIds_block (g : Nat) (ids : List Nat) : spawnIds (ids.map (Ev.spawn g)) = ids :=
  List.filterMap_map.trans List.filterMap_some

theorem spawnIds_done (i : Nat) (oc : Outcome) : spawnIds [Ev.done i oc] = [] := rfl

theorem isSpawnStatus_statusOf (oc : Outcome) : isSpawnStatus (statusOf oc) = true := by
  cases oc with
  | code k => exact (apply_ite isSpawnStatus ..).trans (ite_self true)
  | aborted => rfl

theorem isFailure_statusOf (fou : Bool) (oc : Outcome) : isFailure fou (statusOf oc) = oc.fails := by
  cases oc with
  | code k =>
    by_cases hk : k = 0
    · subst hk; rfl
    · have e : statusOf (.code k) = .error (some k) := if_neg hk
      rewrite [e]
      exact (bne_iff_ne.mpr hk).symm
  | aborted => rfl

/-- the `truth` clause of the invariant for one entry: a `success` or `error` entry is backed by
the completion event it was made from -/
def Backed (e : Nat × Status) (tr : List Ev) : Prop :=
  (e.2 = .success → Ev.done e.1 (.code 0) ∈ tr) ∧
  (∀ k, e.2 = .error (some k) → k ≠ 0 ∧ Ev.done e.1 (.code k) ∈ tr) ∧
  (e.2 = .error none → Ev.done e.1 .aborted ∈ tr)

theorem Backed.append {e : Nat × Status} {tr : List Ev} (h : Backed e tr) (B : List Ev) :
    Backed e (tr ++ B) :=
  ⟨fun x => List.mem_append_left _ (h.1 x),
    fun k x => ⟨(h.2.1 k x).1, List.mem_append_left _ (h.2.1 k x).2⟩,
    fun x => List.mem_append_left _ (h.2.2 x)⟩

theorem backed_of_not_spawnStatus {e : Nat × Status} (h : isSpawnStatus e.2 = false) (tr : List Ev) :
    Backed e tr := by
  refine ⟨?_, ?_, ?_⟩ <;> (intros; simp_all [isSpawnStatus])

theorem backed_statusOf (id : Nat) (oc : Outcome) {tr : List Ev} (h : Ev.done id oc ∈ tr) :
    Backed (id, statusOf oc) tr := by
  cases oc with
  | code k =>
    by_cases hk : k = 0
    · have e : statusOf (.code k) = .success := if_pos hk
      rewrite [e]
      exact ⟨fun _ => hk ▸ h, fun _ => Status.noConfusion, Status.noConfusion⟩
    · have e : statusOf (.code k) = .error (some k) := if_neg hk
      rewrite [e]
      exact ⟨Status.noConfusion, fun k' hk' => by cases hk'; exact ⟨hk, h⟩, nofun⟩
  | aborted => exact ⟨Status.noConfusion, nofun, fun _ => h⟩

theorem entryOk_not_spawnStatus {t : Task} {st : Status} (h : EntryOk t st) : isSpawnStatus st = false := by
  rcases h with rfl | ⟨rfl, _⟩ | ⟨rfl, _⟩ <;> rfl

/-- Everything but "an empty running set means the plan is exhausted" (`ExecInv.stop`, which fails
while a completion is being booked). By consumer: C04 reads `barrier`, `ordered`, `whereSpawn`;
C05 `perm`, `spawned`, `disp`, `entry`, `skip`; C06 `fail`, `truth`, `spawned`, `sub`; C16 `contig`;
`live`, `mono`, `pos` only carry the induction. Twelve clauses are independent: `disp`
follows from `whereSpawn`, `sub` from `pos`, `live` from `spawned` and `truth`. -/
structure ExecInvW (fou : Bool) (plan : List Group) (s : ExecSt) : Prop where
  perm : (rIds s.results ++ s.running ++ planIds s.rest).Perm (planIds plan)
  fail : s.failed = true ↔ ∃ e ∈ s.results, isFailure fou e.2 = true
  live : ∀ g b, Ev.spawn g b ∈ s.trace → b ∈ s.running ∨ ∃ oc, Ev.done b oc ∈ s.trace
  mono : ∀ g b, Ev.spawn g b ∈ s.trace → g ≤ s.gidx
  barrier : Barrier s.trace
  contig : Contig s.trace
  truth : ∀ e ∈ s.results,
    (e.2 = .success → Ev.done e.1 (.code 0) ∈ s.trace) ∧
    (∀ k, e.2 = .error (some k) → k ≠ 0 ∧ Ev.done e.1 (.code k) ∈ s.trace) ∧
    (e.2 = .error none → Ev.done e.1 .aborted ∈ s.trace)
  spawned : (spawnIds s.trace).Perm (s.running ++ rIds (s.results.filter (fun e => isSpawnStatus e.2)))
  disp : ∀ g i, Ev.spawn g i ∈ s.trace → ∃ grp ∈ plan, ∃ t ∈ grp, t.id = i ∧ t.disp = .run
  entry : ∀ e ∈ s.results, isSpawnStatus e.2 = false → ∃ grp ∈ plan, ∃ t ∈ grp, t.id = e.1 ∧ EntryOk t e.2
  sub : ∀ g ∈ s.rest, g ∈ plan
  pos : s.rest = plan.drop (s.gidx + 1)
  whereSpawn : ∀ g i, Ev.spawn g i ∈ s.trace → ∃ grp, plan[g]? = some grp ∧ ∃ t ∈ grp, t.id = i ∧ t.disp = .run
  ordered : Ordered s.trace
  skip : ∀ e ∈ s.results, e.2 = .skipped → s.failed = true

structure ExecInv (fou : Bool) (plan : List Group) (s : ExecSt) : Prop extends ExecInvW fou plan s where
  stop : s.running = [] → s.rest = []

theorem ExecInvW.nodup {fou : Bool} {plan : List Group} {s : ExecSt} (h : ExecInvW fou plan s)
    (hnd : (planIds plan).Nodup) : (rIds s.results ++ s.running).Nodup :=
  (List.nodup_append.mp (h.perm.nodup_iff.mpr hnd)).1

theorem filter_entries_nil {rs : List (Nat × Status)}
    (h : ∀ e ∈ rs, isSpawnStatus e.2 = false) : rs.filter (fun e => isSpawnStatus e.2) = [] :=
  List.filter_eq_nil_iff.mpr fun e he => ne_true_of_eq_false (h e he)

/-- the bookkeeping of one joined completion -/
def doneSt (s : ExecSt) (id : Nat) (oc : Outcome) : ExecSt :=
  { s with running := s.running.erase id, results := s.results ++ [(id, statusOf oc)],
           failed := s.failed || oc.fails, trace := s.trace ++ [Ev.done id oc] }

/-- moving on to the next group(s) once the current one has drained -/
def advSt (fou : Bool) (s : ExecSt) : ExecSt :=
  let a := advance fou s.rest (s.gidx + 1) s.failed
  { rest := a.rest, gidx := a.gidx, running := a.spawns, results := s.results ++ a.results,
    failed := a.failed, trace := s.trace ++ a.spawns.map (Ev.spawn a.gidx) }

theorem stepExec_cases {P : ExecSt → Prop} (fou : Bool) (s : ExecSt) (id : Nat) (oc : Outcome)
    (skip : P s) (done : id ∈ s.running → s.running.erase id ≠ [] → P (doneSt s id oc))
    (adv : id ∈ s.running → s.running.erase id = [] → P (advSt fou (doneSt s id oc))) :
    P (stepExec fou s id oc) := by
  unfold stepExec
  by_cases hc : s.running.contains id = true
  · have hid := List.contains_iff_mem.mp hc
    rewrite [if_pos hc]
    by_cases he : (s.running.erase id).isEmpty = true
    · rewrite [if_pos he]
      exact adv hid (List.isEmpty_iff.mp he)
    · rewrite [if_neg he]
      exact done hid fun h => he (List.isEmpty_iff.mpr h)
  · rewrite [if_neg hc]
    exact skip

theorem spawn_mem_doneSt {s : ExecSt} {id : Nat} {oc : Outcome} {g b : Nat} :
    Ev.spawn g b ∈ (doneSt s id oc).trace ↔ Ev.spawn g b ∈ s.trace :=
  List.mem_append.trans (or_iff_left fun h => Ev.noConfusion (List.mem_singleton.mp h))

theorem spawn_mem_append_block {tr : List Ev} {ids : List Nat} {gnew g b : Nat} :
    Ev.spawn g b ∈ tr ++ ids.map (Ev.spawn gnew) ↔ Ev.spawn g b ∈ tr ∨ g = gnew ∧ b ∈ ids := by
  rewrite [List.mem_append, List.mem_map]
  refine or_congr_right ⟨?_, fun h => ⟨b, h.2, h.1 ▸ rfl⟩⟩
  rintro ⟨c, hc, he⟩
  cases he
  exact ⟨rfl, hc⟩

theorem doneSt_invW {fou : Bool} {plan : List Group} {s : ExecSt} (h : ExecInvW fou plan s)
    {id : Nat} (hid : id ∈ s.running) (oc : Outcome) : ExecInvW fou plan (doneSt s id oc) where
  perm := by
    refine .trans ?_ h.perm
    simp only [doneSt, rIds, List.map_append, List.map_cons, List.map_nil, List.append_assoc]
    exact ((List.perm_cons_erase hid).symm.append_right _).append_left _
  fail := by
    simp only [doneSt, Bool.or_eq_true, h.fail, List.mem_append, List.mem_singleton, or_and_right,
      exists_or, exists_eq_left, isFailure_statusOf]
  live g b hb := by
    rcases h.live g b (spawn_mem_doneSt.mp hb) with hr | ⟨oc', hd⟩
    · rcases eq_or_ne b id with rfl | hbi
      · exact .inr ⟨oc, List.mem_concat_self⟩
      · exact .inl ((List.mem_erase_of_ne hbi).mpr hr)
    · exact .inr ⟨oc', List.mem_append_left _ hd⟩
  mono g b hb := h.mono g b (spawn_mem_doneSt.mp hb)
  barrier := barrier_append_done h.barrier id oc
  contig := contig_append_done h.contig id oc
  truth := List.forall_mem_append.mpr ⟨fun e he => Backed.append (h.truth e he) _,
    List.forall_mem_singleton.mpr (backed_statusOf id oc List.mem_concat_self)⟩
  spawned := by
    simp only [doneSt, spawnIds_append, spawnIds_done, List.append_nil, List.filter_append,
      List.filter_singleton, isSpawnStatus_statusOf, cond_true, rIds, List.map_append,
      ← List.append_assoc]
    exact h.spawned.trans (((List.perm_cons_erase hid).append_right _).trans
      (List.perm_append_singleton _ _).symm)
  disp g i hi := h.disp g i (spawn_mem_doneSt.mp hi)
  entry := List.forall_mem_append.mpr ⟨h.entry, List.forall_mem_singleton.mpr fun hns =>
    absurd (hns.symm.trans (isSpawnStatus_statusOf oc)) Bool.false_ne_true⟩
  sub := h.sub
  pos := h.pos
  whereSpawn g i hi := h.whereSpawn g i (spawn_mem_doneSt.mp hi)
  ordered := ordered_append_done h.ordered id oc
  skip := List.forall_mem_append.mpr ⟨fun e he hs => Bool.or_eq_true_iff.mpr (.inl (h.skip e he hs)),
    List.forall_mem_singleton.mpr fun hs =>
      absurd ((congrArg isSpawnStatus hs).symm.trans (isSpawnStatus_statusOf oc)) Bool.false_ne_true⟩

/-- The state `advance` is applied to: nothing runs and the groups before plan position `gi` are
done with. `ExecInvW` cannot say this of the start (`gi = 0`, no history), since its `pos` puts the
machine behind group `s.gidx`; after a group has drained `gi = s.gidx + 1`. The other clauses are
those of `ExecInvW` under the same names (`truth` through `Backed`), so that `ExecInvW.idle` is a
record update, without `disp` and
`sub`, which `Idle.advance` derives; a clause added to `ExecInvW` is added here, and proved in
`doneSt_invW`, `Idle.init` and `Idle.advance`. -/
structure Idle (fou : Bool) (plan : List Group) (gi : Nat) (s : ExecSt) : Prop where
  idle : s.running = []
  pos : s.rest = plan.drop gi
  mono : ∀ g b, Ev.spawn g b ∈ s.trace → g < gi
  perm : (rIds s.results ++ s.running ++ planIds s.rest).Perm (planIds plan)
  fail : s.failed = true ↔ ∃ e ∈ s.results, isFailure fou e.2 = true
  live : ∀ g b, Ev.spawn g b ∈ s.trace → b ∈ s.running ∨ ∃ oc, Ev.done b oc ∈ s.trace
  barrier : Barrier s.trace
  contig : Contig s.trace
  truth : ∀ e ∈ s.results, Backed e s.trace
  spawned : (spawnIds s.trace).Perm (s.running ++ rIds (s.results.filter (fun e => isSpawnStatus e.2)))
  entry : ∀ e ∈ s.results, isSpawnStatus e.2 = false → ∃ grp ∈ plan, ∃ t ∈ grp, t.id = e.1 ∧ EntryOk t e.2
  whereSpawn : ∀ g i, Ev.spawn g i ∈ s.trace → ∃ grp, plan[g]? = some grp ∧ ∃ t ∈ grp, t.id = i ∧ t.disp = .run
  ordered : Ordered s.trace
  skip : ∀ e ∈ s.results, e.2 = .skipped → s.failed = true

theorem ExecInvW.idle {fou : Bool} {plan : List Group} {s : ExecSt} (h : ExecInvW fou plan s)
    (hrun : s.running = []) : Idle fou plan (s.gidx + 1) s :=
  { h with idle := hrun, mono := fun g b hb => Nat.lt_succ_of_le (h.mono g b hb) }

theorem Idle.init (fou : Bool) (plan : List Group) : Idle fou plan 0 ⟨plan, 0, [], [], false, []⟩ :=
  { idle := rfl, pos := rfl, mono := fun _ _ h => absurd h List.not_mem_nil, perm := .refl _,
    fail := iff_of_false Bool.false_ne_true fun h => h.elim fun _ he => List.not_mem_nil he.1,
    live := fun _ _ h => absurd h List.not_mem_nil, barrier := barrier_nil, contig := contig_nil,
    truth := List.forall_mem_nil _, spawned := .refl _, entry := List.forall_mem_nil _,
    whereSpawn := fun _ _ h => absurd h List.not_mem_nil, ordered := ordered_nil,
    skip := List.forall_mem_nil _ }

theorem Idle.advance {fou : Bool} {plan : List Group} {gi : Nat} {s : ExecSt} (h : Idle fou plan gi s)
    {A : Adv} (a : AdvSpec fou s.rest gi s.failed A) :
    ExecInv fou plan ⟨A.rest, A.gidx, A.spawns, s.results ++ A.results, A.failed,
      s.trace ++ A.spawns.map (Ev.spawn A.gidx)⟩ := by
  obtain ⟨hrest, hsp⟩ := a.pos plan h.pos
  have hent : ∀ e ∈ A.results, isSpawnStatus e.2 = false := by
    intro e he
    obtain ⟨_, _, _, _, _, hok⟩ := a.entry e he
    exact entryOk_not_spawnStatus hok
  have hcomplete : Complete s.trace := fun g b hb => (h.live g b hb).resolve_left (h.idle ▸ List.not_mem_nil)
  have hlt := fun g b hb => Nat.lt_of_lt_of_le (h.mono g b hb) a.le
  have hws : ∀ g i, Ev.spawn g i ∈ s.trace ++ A.spawns.map (Ev.spawn A.gidx) →
      ∃ grp, plan[g]? = some grp ∧ ∃ t ∈ grp, t.id = i ∧ t.disp = .run := by
    intro g i hi
    rcases spawn_mem_append_block.mp hi with hold | ⟨rfl, hnew⟩
    · exact h.whereSpawn g i hold
    · exact hsp i hnew
  exact {
    perm := by
      have := (a.perm.append_left (rIds s.results)).trans
        (by simpa only [h.idle, List.append_nil] using h.perm)
      simpa only [rIds, List.map_append, List.append_assoc] using this
    fail := by
      simp only [a.failed_iff, h.fail, List.mem_append, or_and_right, exists_or]
    live := fun g b hb => by
      rcases spawn_mem_append_block.mp hb with hb | ⟨_, hb⟩
      · exact .inr ((hcomplete g b hb).imp fun oc hoc => List.mem_append_left _ hoc)
      · exact .inl hb
    mono := fun g b hb => by
      rcases spawn_mem_append_block.mp hb with hb | ⟨rfl, _⟩
      · exact Nat.le_of_lt (hlt g b hb)
      · exact Nat.le_refl _
    barrier := barrier_append_spawns h.barrier hcomplete _ _
    contig := contig_append_spawns h.contig _ (fun g b hb => Nat.ne_of_lt (hlt g b hb)) _
    truth := List.forall_mem_append.mpr ⟨fun e he => (h.truth e he).append _,
      fun e he => backed_of_not_spawnStatus (hent e he) _⟩
    spawned := by
      have hs := h.spawned
      simp only [h.idle, spawnIds_append, spawnIds_block, List.filter_append,
        filter_entries_nil hent, List.append_nil, List.nil_append] at hs ⊢
      exact (hs.append_right _).trans List.perm_append_comm
    disp := fun g i hi => (hws g i hi).imp fun _ hg => ⟨List.mem_of_getElem? hg.1, hg.2⟩
    entry := List.forall_mem_append.mpr ⟨h.entry, fun e he _ =>
      (a.entry e he).imp fun grp hg => ⟨List.mem_of_mem_drop (h.pos ▸ hg.1), hg.2⟩⟩
    sub := fun g hg => List.mem_of_mem_drop (hrest ▸ hg)
    pos := hrest
    whereSpawn := hws
    ordered := ordered_append_spawns h.ordered _ (fun g b hb => Nat.le_of_lt (hlt g b hb)) _
    skip := List.forall_mem_append.mpr ⟨fun e he hs => a.failed_iff.mpr (.inl (h.skip e he hs)),
      a.skipped⟩
    stop := a.stop }

theorem startExec_inv (fou : Bool) (plan : List Group) : ExecInv fou plan (startExec fou plan) :=
  (Idle.init fou plan).advance (advance_spec fou plan 0 false)

theorem stepExec_inv {fou : Bool} {plan : List Group} {s : ExecSt} (h : ExecInv fou plan s)
    (id : Nat) (oc : Outcome) : ExecInv fou plan (stepExec fou s id oc) :=
  stepExec_cases (P := ExecInv fou plan) fou s id oc h
    (fun hid hne => { doneSt_invW h.toExecInvW hid oc with stop := fun hnil => absurd hnil hne })
    (fun hid he => ((doneSt_invW h.toExecInvW hid oc).idle he).advance (advance_spec ..))

theorem runExec_inv (fou : Bool) (plan : List Group) (inputs : List (Nat × Outcome)) :
    ExecInv fou plan (runExec fou plan inputs) :=
  List.foldlRecOn inputs _ (startExec_inv fou plan) fun _ h io _ => stepExec_inv h io.1 io.2

end Monorail
