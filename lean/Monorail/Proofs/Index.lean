import Monorail.Model.Index
import Monorail.Spec.C10
import Monorail.Proofs.Path
import Monorail.Proofs.Sort
namespace Monorail

/-- well-formed configuration: what `Index::new` accepts (distinct labels) with normal target paths -/
structure WF (cfg : Config) : Prop where
  nodup : (cfg.map (·.path)).Nodup
  normal : ∀ t ∈ cfg, Normal t.path

/-- well-formed configuration when target paths may be written with one trailing separator:
no two targets name the same directory, and every named directory is a normal path -/
structure WFD (cfg : Config) : Prop where
  nodup : (cfg.map (fun t => dirOf t.path)).Nodup
  normal : ∀ t ∈ cfg, Normal (dirOf t.path)

theorem WF.toWFD {cfg : Config} (h : WF cfg) : WFD cfg :=
  ⟨List.map_congr_left (fun t ht => dirOf_normal (h.normal t ht)) ▸ h.nodup,
   fun t ht => normal_dirOf (h.normal t ht)⟩

theorem WFD.nodupPath {cfg : Config} (h : WFD cfg) : (cfg.map (·.path)).Nodup :=
  List.pairwise_map.mpr ((List.pairwise_map.mp h.nodup).imp fun hab heq => hab (congrArg dirOf heq))

theorem nodup_map_getElem_inj {α β : Type} {f : α → β} {l : List α} (h : (l.map f).Nodup)
    {i j : Nat} {a b : α} (hi : l[i]? = some a) (hj : l[j]? = some b) (heq : f a = f b) : i = j :=
  (List.getElem?_inj (by rw [List.length_map]; exact (List.getElem?_eq_some_iff.mp hi).1) h).mp
    (by simp only [List.getElem?_map, hi, hj, Option.map_some, heq])

theorem nodup_map_inj {α β : Type} {f : α → β} {l : List α} (h : (l.map f).Nodup) {a b : α}
    (ha : a ∈ l) (hb : b ∈ l) (heq : f a = f b) : a = b := by
  obtain ⟨i, hi⟩ := List.getElem?_of_mem ha
  obtain ⟨j, hj⟩ := List.getElem?_of_mem hb
  cases nodup_map_getElem_inj h hi hj heq
  exact Option.some.inj (hi.symm.trans hj)

theorem insertUniq_eq (x : Nat) (l : List Nat) :
    insertUniq x l = insertBy (fun a b => decide (a < b)) x l := by
  fun_induction insertUniq x l <;> simp [insertBy, *]

theorem sortDedup_eq (l : List Nat) : sortDedup l = sortDedupBy (fun a b => decide (a < b)) l :=
  congrArg (List.foldr · [] l) (funext fun x => funext (insertUniq_eq x))

theorem natLt_strict : StrictOrder (fun a b : Nat => decide (a < b)) :=
  ⟨fun a => decide_eq_false (Nat.lt_irrefl a),
   fun _ _ _ h1 h2 => decide_eq_true (Nat.lt_trans (of_decide_eq_true h1) (of_decide_eq_true h2)),
   fun _ _ h hne => decide_eq_true
    (Nat.lt_of_le_of_ne (Nat.le_of_not_lt (of_decide_eq_false h)) hne.symm)⟩

theorem mem_sortDedup {y : Nat} {l : List Nat} : y ∈ sortDedup l ↔ y ∈ l := by
  rw [sortDedup_eq, mem_sortDedupBy]

theorem sortDedup_sorted (l : List Nat) : (sortDedup l).Pairwise (· < ·) := by
  rw [sortDedup_eq]
  exact (sortDedupBy_sorted natLt_strict l).imp of_decide_eq_true

theorem indexOf?_some {cfg : Config} {p : Path} {j : Nat} (h : indexOf? cfg p = some j) :
    ∃ U, cfg[j]? = some U ∧ U.path = p := by
  fun_induction indexOf? cfg p generalizing j with
  | case1 => cases h
  | case2 t ts hp => cases h; exact ⟨t, rfl, hp⟩
  | case3 t ts hp ih =>
    obtain ⟨k, hk, rfl⟩ := Option.map_eq_some_iff.mp h
    exact ih hk

theorem indexOf?_of_nodup {cfg : Config} (hnd : (cfg.map (·.path)).Nodup) {j : Nat} {U : Target}
    (hU : cfg[j]? = some U) : indexOf? cfg U.path = some j := by
  generalize hp : U.path = p
  fun_induction indexOf? cfg p generalizing j with
  | case1 => cases hU
  | case2 t ts ht =>
    exact congrArg some (nodup_map_getElem_inj hnd (i := 0) rfl hU (ht.trans hp.symm))
  | case3 t ts hne ih =>
    cases j with
    | zero => cases hU; exact absurd hp hne
    | succ j => rw [ih (List.nodup_cons.mp hnd).2 hU]; rfl

theorem mem_searchTargets {cfg : Config} {q t : Path} :
    t ∈ searchTargets cfg q ↔ t ∈ cfg.map (·.path) ∧ hit t q = true :=
  List.mem_filter

theorem mem_hitNodes {cfg : Config} (hnd : (cfg.map (·.path)).Nodup) {q self : Path} {j : Nat}
    {U : Target} (hU : cfg[j]? = some U) :
    j ∈ hitNodes cfg q self ↔ hit U.path q = true ∧ U.path ≠ self := by
  simp only [hitNodes, List.mem_filterMap, List.mem_filter, mem_searchTargets, decide_eq_true_eq]
  constructor
  · rintro ⟨k, ⟨⟨_, hh⟩, hs⟩, hidx⟩
    obtain ⟨U', hU', rfl⟩ := indexOf?_some hidx
    cases hU.symm.trans hU'
    exact ⟨hh, hs⟩
  · rintro ⟨hh, hs⟩
    exact ⟨U.path, ⟨⟨List.mem_map_of_mem (List.mem_of_getElem? hU), hh⟩, hs⟩, indexOf?_of_nodup hnd hU⟩

theorem deps_lt {cfg : Config} {i j : Nat} (h : j ∈ deps cfg i) : j < cfg.length := by
  have hlt : ∀ {q self}, j ∈ hitNodes cfg q self → j < cfg.length := fun h => by
    obtain ⟨k, _, hk⟩ := List.mem_filterMap.mp h
    obtain ⟨U, hU, _⟩ := indexOf?_some hk
    exact (List.getElem?_eq_some_iff.mp hU).1
  revert h
  fun_cases deps cfg i with
  | case1 => exact fun h => absurd h List.not_mem_nil
  | case2 t =>
    rw [mem_sortDedup, List.mem_append, List.mem_flatMap]
    rintro (h | ⟨u, _, h⟩) <;> exact hlt h

theorem path_ne_iff {cfg : Config} (hnd : (cfg.map (·.path)).Nodup) {i j : Nat} {T U : Target}
    (hT : cfg[i]? = some T) (hU : cfg[j]? = some U) : U.path ≠ T.path ↔ j ≠ i :=
  not_congr ⟨nodup_map_getElem_inj hnd hU hT,
    fun h => congrArg Target.path (Option.some.inj ((h ▸ hU).symm.trans hT))⟩

theorem mem_deps {cfg : Config} (hnd : (cfg.map (·.path)).Nodup) {i j : Nat} {T U : Target}
    (hT : cfg[i]? = some T) (hU : cfg[j]? = some U) :
    j ∈ deps cfg i ↔ j ≠ i ∧
      (hit U.path T.path = true ∨ ∃ u ∈ T.uses, hit U.path (slashQ u) = true) := by
  simp only [deps, hT, mem_sortDedup, List.mem_append, List.mem_flatMap, mem_hitNodes hnd hU,
    path_ne_iff hnd hT hU]
  rewrite [and_comm (a := j ≠ i), or_and_right]
  simp only [← and_assoc, exists_and_right]

theorem hit_targets {cfg : Config} (h : WFD cfg) {T N : Target} (hT : T ∈ cfg) (hN : N ∈ cfg) :
    hit T.path N.path = true ↔ Within (dirOf T.path) (dirOf N.path) := by
  by_cases hTN : T = N
  · subst hTN
    exact iff_of_true (hit_self (h.normal T hT)) (within_refl _)
  · exact hit_nest (h.normal T hT) fun heq => hTN (nodup_map_inj h.nodup hT hN heq)

theorem hasDupPath_eq_false (c : Config) : hasDupPath c = false ↔ (c.map (·.path)).Nodup := by
  fun_induction hasDupPath c with
  | case1 => exact iff_of_true rfl List.nodup_nil
  | case2 t ts ih =>
    simp only [Bool.or_eq_false_iff, ih, List.map_cons, List.nodup_cons, List.mem_map,
      List.any_eq_false, decide_eq_true_eq, not_exists, not_and]

theorem hasDupDir_eq_false (c : Config) :
    hasDupDir c = false ↔ (c.map (fun t => dirOf t.path)).Nodup := by
  fun_induction hasDupDir c with
  | case1 => exact iff_of_true rfl List.nodup_nil
  | case2 t ts ih =>
    simp only [Bool.or_eq_false_iff, ih, List.map_cons, List.nodup_cons, List.mem_map,
      List.any_eq_false, decide_eq_true_eq, not_exists, not_and]

/-- the filter of `specDeps` and `specDepsD`, with the dependency test as `d` -/
theorem mem_filter_deps {cfg : Config} {i j : Nat} {d : Target → Bool} :
    j ∈ (List.range cfg.length).filter (fun j =>
        j != i && (match cfg[j]? with | some U => d U | none => false)) ↔
      ∃ U, cfg[j]? = some U ∧ j ≠ i ∧ d U = true := by
  rewrite [List.mem_filter, List.mem_range, Bool.and_eq_true, bne_iff_ne]
  constructor
  · rintro ⟨hj, hne, hd⟩
    rw [List.getElem?_eq_getElem hj] at hd ⊢
    exact ⟨_, rfl, hne, hd⟩
  · rintro ⟨U, hU, hne, hd⟩
    rw [hU]
    exact ⟨(List.getElem?_eq_some_iff.mp hU).1, hne, hd⟩

end Monorail
