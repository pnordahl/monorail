import Monorail.Model.Path
/-! Lemmas relating the code's byte-level matching rule to the component-level specification. -/
namespace Monorail

theorem comps_eq_splitOn (l : Path) : comps l = l.splitOn sep := by
  fun_induction comps l with
  | case1 => rfl
  | case2 cs ih => rw [List.splitOn_cons_eq_if_modifyHead, if_pos (beq_iff_eq.mpr rfl), ih]
  | case3 c cs h hm ih => exact absurd (ih.symm.trans hm) (List.splitOn_ne_nil sep cs)
  | case4 c cs h hd t hm ih =>
    rw [List.splitOn_cons_eq_if_modifyHead, if_neg (mt beq_iff_eq.mp h), ← ih, hm, List.modifyHead_cons]

theorem joinComps_eq_intercalate (cs : List Path) : joinComps cs = [sep].intercalate cs := by
  fun_induction joinComps cs with
  | case1 => rfl
  | case2 c => exact List.intercalate_singleton.symm
  | case3 c d t ih => rw [List.intercalate_cons_cons, ih, List.append_assoc]; rfl

theorem comps_ne_nil (l : Path) : comps l ≠ [] :=
  comps_eq_splitOn l ▸ List.splitOn_ne_nil sep l

theorem comps_append_sep (x y : Path) :
    comps (x ++ sep :: y) = comps x ++ comps y := by
  simp only [comps_eq_splitOn, List.splitOn_append_cons_self]

theorem comps_snoc_sep (x : Path) : comps (x ++ [sep]) = comps x ++ [[]] :=
  comps_append_sep x []

theorem joinComps_comps (l : Path) : joinComps (comps l) = l := by
  rw [joinComps_eq_intercalate, comps_eq_splitOn, List.intercalate_splitOn]

theorem comps_injective {a b : Path} (h : comps a = comps b) : a = b := by
  rw [← joinComps_comps a, ← joinComps_comps b, h]

theorem joinComps_append (a b : List Path) (ha : a ≠ []) (hb : b ≠ []) :
    joinComps (a ++ b) = joinComps a ++ sep :: joinComps b := by
  fun_induction joinComps a with
  | case1 => exact absurd rfl ha
  | case2 c => obtain ⟨y, ys, rfl⟩ := List.exists_cons_of_ne_nil hb; rfl
  | case3 c d t ih =>
    rw [List.append_assoc, List.cons_append (a := sep), ← ih (List.cons_ne_nil d t)]; rfl

theorem withinB_iff (d p : Path) : withinB d p = true ↔ Within d p := List.isPrefixOf_iff_prefix

theorem within_refl (p : Path) : Within p p := List.prefix_refl _

theorem within_trans {a b c : Path} (h1 : Within a b) (h2 : Within b c) : Within a c :=
  List.IsPrefix.trans h1 h2

theorem normal_ne_nil {p : Path} (h : Normal p) : p ≠ [] := by
  rintro rfl
  exact h (List.mem_singleton_self [])

theorem normal_getLast {p : Path} (h : Normal p) : p.getLast? ≠ some sep := by
  intro hl
  obtain ⟨x, rfl⟩ := List.getLast?_eq_some_iff.mp hl
  exact h (comps_snoc_sep x ▸ List.mem_concat_self)

theorem normalB_iff (p : Path) : normalB p = true ↔ Normal p := by
  simp [normalB, Normal]

theorem within_iff_append (d p : Path) : Within d p ↔ p = d ∨ ∃ t, p = d ++ sep :: t := by
  constructor
  · rintro ⟨r, hr⟩
    cases r with
    | nil => exact .inl (comps_injective (hr.symm.trans (List.append_nil _)))
    | cons r0 rs =>
      refine .inr ⟨joinComps (r0 :: rs), ?_⟩
      rw [← joinComps_comps p, ← hr, joinComps_append _ _ (comps_ne_nil d) (List.cons_ne_nil _ _),
        joinComps_comps]
  · rintro (rfl | ⟨t, rfl⟩)
    · exact within_refl _
    · rewrite [Within, comps_append_sep]; exact List.prefix_append _ _

theorem within_iff_bytes (d p : Path) :
    Within d p ↔ d.isPrefixOf p = true ∧ (p.length = d.length ∨ p[d.length]? = some sep) := by
  have hget : ∀ t : Path, (d ++ t)[d.length]? = t.head? := fun t => by
    rw [List.getElem?_append_right (Nat.le_refl _), Nat.sub_self, List.head?_eq_getElem?]
  rewrite [within_iff_append, List.isPrefixOf_iff_prefix]
  constructor
  · rintro (rfl | ⟨t, rfl⟩)
    · exact ⟨List.prefix_refl _, .inl rfl⟩
    · exact ⟨List.prefix_append _ _, .inr (hget _)⟩
  · rintro ⟨hpre, hl | hs⟩
    · exact .inl (hpre.eq_of_length hl.symm).symm
    · obtain ⟨t, rfl⟩ := hpre
      rw [hget, List.head?_eq_some_iff] at hs
      obtain ⟨t', rfl⟩ := hs
      exact .inr ⟨t', rfl⟩

theorem hit_eq_true_iff (k q : Path) : hit k q = true ↔
    k ≠ [] ∧ k <+: q ∧ (q.length = k.length ∨ k.getLast? = some sep ∨ q[k.length]? = some sep) := by
  simp only [hit, boundary, Bool.and_eq_true, Bool.or_eq_true, Bool.not_eq_eq_eq_not, Bool.not_true,
    List.isEmpty_eq_false_iff, List.isPrefixOf_iff_prefix, beq_iff_eq, ne_eq, and_assoc, or_assoc]

/-- THE TIE between the code's rule and the spec: for a normal key, the repaired trie search hits
exactly when the query equals the key or lies inside it by whole components. -/
theorem hit_iff {k : Path} (hk : Normal k) (q : Path) : hit k q = true ↔ Within k q := by
  simp only [hit_eq_true_iff, within_iff_bytes, List.isPrefixOf_iff_prefix, ne_eq, normal_ne_nil hk,
    normal_getLast hk, not_false_eq_true, true_and, false_or]

theorem dirOf_normal {p : Path} (h : Normal p) : dirOf p = p := if_neg (normal_getLast h)

theorem normal_dirOf {p : Path} (h : Normal p) : Normal (dirOf p) :=
  (dirOf_normal h).symm ▸ h

theorem dirOf_snoc (d : Path) : dirOf (d ++ [sep]) = d := by
  rw [dirOf, if_pos List.getLast?_concat, List.dropLast_concat]

theorem eq_snoc_of_getLast {p : Path} (h : p.getLast? = some sep) : p = dirOf p ++ [sep] := by
  obtain ⟨ys, rfl⟩ := List.getLast?_eq_some_iff.mp h
  rw [dirOf_snoc]

theorem slashQ_getLast (u : Path) : (slashQ u).getLast? = some sep := List.getLast?_concat

theorem within_snoc {d x : Path} (hd : Normal d) : Within d (x ++ [sep]) ↔ Within d x := by
  unfold Within
  rewrite [comps_snoc_sep, List.prefix_concat_iff]
  exact or_iff_right fun h => hd (h ▸ List.mem_concat_self)

theorem within_dirOf {d q : Path} (hd : Normal d) : Within d (dirOf q) ↔ Within d q := by
  by_cases h : q.getLast? = some sep
  · rw [← within_snoc hd, ← eq_snoc_of_getLast h]
  · rw [dirOf, if_neg h]

/-- looking a `uses` entry up with one trailing separator asks the same question as the entry -/
theorem within_slashQ {d u : Path} (hd : Normal d) : Within d (slashQ u) ↔ Within d u := by
  rw [slashQ, within_snoc hd, within_dirOf hd]

/-- THE TIE for keys that may carry a trailing separator: the repaired search hits exactly when the
query equals or lies inside the directory the key names - provided the query is not that directory
written without the separator (which the `uses` lookup rules out by asking with `slashQ`). -/
theorem hit_dir {k : Path} (hk : Normal (dirOf k)) {q : Path}
    (hq : k.getLast? = some sep → q ≠ dirOf k) : hit k q = true ↔ Within (dirOf k) q := by
  by_cases hs : k.getLast? = some sep
  · have hkeq := eq_snoc_of_getLast hs
    have hne := hq hs
    generalize dirOf k = d at hkeq hne
    subst hkeq
    -- a key ending with the separator is on a boundary wherever it is a prefix
    have hh : hit (d ++ [sep]) q = true ↔ d ++ [sep] <+: q :=
      (hit_eq_true_iff _ q).trans
        ⟨fun h => h.2.1, fun h => ⟨List.concat_ne_nil sep d, h, .inr (.inl List.getLast?_concat)⟩⟩
    rewrite [hh, within_iff_append, or_iff_right hne]
    exact exists_congr fun t => by rw [List.append_assoc]; exact eq_comm
  · rewrite [dirOf, if_neg hs] at hk ⊢
    exact hit_iff hk q

/-- the `uses` lookup as the code performs it -/
theorem hit_slashQ {k : Path} (hk : Normal (dirOf k)) (u : Path) :
    hit k (slashQ u) = true ↔ Within (dirOf k) u := by
  rw [hit_dir hk, within_slashQ hk]
  exact fun _ heq => normal_getLast hk (heq ▸ slashQ_getLast u)

theorem hit_self {k : Path} (hk : Normal (dirOf k)) : hit k k = true := by
  have : k ≠ [] := fun h => normal_ne_nil hk (congrArg dirOf h)
  exact (hit_eq_true_iff k k).mpr ⟨this, List.prefix_refl k, .inl rfl⟩

/-- the nesting lookup: the query is another target's path as written -/
theorem hit_nest {k q : Path} (hk : Normal (dirOf k)) (hne : dirOf k ≠ dirOf q) :
    hit k q = true ↔ Within (dirOf k) (dirOf q) := by
  rewrite [within_dirOf hk]
  exact hit_dir hk fun _ heq => hne (by rw [heq, dirOf_normal hk])

end Monorail
