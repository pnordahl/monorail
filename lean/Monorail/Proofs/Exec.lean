import Monorail.Model.Exec
import Monorail.Spec.Exec
import Mathlib.Data.List.Nodup
namespace Monorail

def rIds (rs : List (Nat × Status)) : List Nat := rs.map (·.1)
def gIds (g : Group) : List Nat := g.map (·.id)
def planIds (plan : List Group) : List Nat := plan.flatMap gIds

/-- what one scheduling step may add for a task -/
def EntryOk (t : Task) (st : Status) : Prop :=
  st = .skipped ∨ (st = .undefined ∧ t.disp = .undefined) ∨ (st = .notExecutable ∧ t.disp = .notExec)

theorem id_unique {plan : List Group} (hnd : (planIds plan).Nodup) {g g' : Nat} {G G' : Group}
    (hG : plan[g]? = some G) (hG' : plan[g']? = some G') {t t' : Task} (ht : t ∈ G) (ht' : t' ∈ G')
    (hid : t.id = t'.id) : g = g' ∧ t = t' := by
  obtain ⟨hin, hout⟩ := List.pairwise_flatMap.mp hnd
  replace hout := List.pairwise_iff_getElem.mp hout
  obtain ⟨hg, rfl⟩ := List.getElem?_eq_some_iff.mp hG
  obtain ⟨hg', rfl⟩ := List.getElem?_eq_some_iff.mp hG'
  rcases Nat.lt_trichotomy g g' with hlt | rfl | hlt
  · exact absurd hid (hout g g' hg hg' hlt _ (List.mem_map_of_mem ht) _ (List.mem_map_of_mem ht'))
  · exact ⟨rfl, List.inj_on_of_nodup_map (hin _ (List.getElem_mem hg)) ht ht' hid⟩
  · exact absurd hid.symm
      (hout g' g hg' hg hlt _ (List.mem_map_of_mem ht') _ (List.mem_map_of_mem ht))

theorem EntryOk.not_failure {fou : Bool} {t : Task} {st : Status} (h : EntryOk t st)
    (hne : t.disp ≠ .notExec) (hund : t.disp = .undefined → fou = false) : isFailure fou st = false := by
  rcases h with rfl | ⟨rfl, hd⟩ | ⟨rfl, hd⟩
  · rfl
  · exact hund hd
  · exact absurd hd hne

theorem EntryOk.skipped_of_run {t : Task} {st : Status} (h : EntryOk t st) (hr : t.disp = .run) :
    st = .skipped := by
  rcases h with hs | ⟨_, hd⟩ | ⟨_, hd⟩
  · exact hs
  · cases hr.symm.trans hd
  · cases hr.symm.trans hd

/-- the three arms of `schedMember` that file an entry have one shape: the entry is `skipped` exactly
when the run has failed already, and `failed` becomes `failed || isFailure fou st` -/
theorem schedMember_cases (fou : Bool) (acc : Sched) (t : Task) :
    (acc.failed = false ∧ t.disp = .run ∧
      schedMember fou acc t = { acc with spawns := acc.spawns ++ [t.id] }) ∨
    ∃ st, EntryOk t st ∧ (st = .skipped ↔ acc.failed = true) ∧
      schedMember fou acc t =
        { acc with failed := acc.failed || isFailure fou st, results := acc.results ++ [(t.id, st)] } := by
  unfold schedMember
  cases hf : acc.failed
  · cases hd : t.disp
    · exact .inl ⟨rfl, rfl, rfl⟩
    · exact .inr ⟨.undefined, .inr (.inl ⟨rfl, hd⟩),
        iff_of_false Status.noConfusion Bool.false_ne_true, rfl⟩
    · exact .inr ⟨.notExecutable, .inr (.inr ⟨rfl, hd⟩),
        iff_of_false Status.noConfusion Bool.false_ne_true, rfl⟩
  · exact .inr ⟨.skipped, .inl rfl, ⟨fun _ => rfl, fun _ => rfl⟩, rfl⟩

/-- What scheduling the members of `g` returns when the failure flag comes in as `f`. `latch`: under
an incoming failure nothing is spawned and every entry is `skipped`; `skipped`: conversely a
`skipped` entry means failure comes out; `started`: if no failure comes out, the members with an
executable were spawned, all of them and in order. -/
structure SchedSpec (fou f : Bool) (g : Group) (r : Sched) : Prop where
  perm : (rIds r.results ++ r.spawns).Perm (gIds g)
  spawn : ∀ i ∈ r.spawns, ∃ t ∈ g, t.id = i ∧ t.disp = .run
  entry : ∀ e ∈ r.results, ∃ t ∈ g, t.id = e.1 ∧ EntryOk t e.2
  failed_iff : r.failed = true ↔ f = true ∨ ∃ e ∈ r.results, isFailure fou e.2 = true
  latch : f = true → r.spawns = [] ∧ ∀ e ∈ r.results, e.2 = .skipped
  skipped : ∀ e ∈ r.results, e.2 = .skipped → r.failed = true
  started : r.failed = false → r.spawns = (g.filter (fun t => t.disp = .run)).map (·.id)

theorem SchedSpec.step {fou f : Bool} {g : Group} {r : Sched} (h : SchedSpec fou f g r) (t : Task) :
    SchedSpec fou f (g ++ [t]) (schedMember fou r t) := by
  have hspawn := fun i hi => (h.spawn i hi).imp fun _ => And.imp_left (List.mem_append_left [t])
  have hentry := fun e he => (h.entry e he).imp fun _ => And.imp_left (List.mem_append_left [t])
  rcases schedMember_cases fou r t with ⟨hf, hd, heq⟩ | ⟨st, hst, hsk, heq⟩ <;> rewrite [heq]
  · exact {
      perm := by
        simp only [gIds, List.map_append, ← List.append_assoc]
        exact h.perm.append_right _
      spawn := List.forall_mem_append.mpr ⟨hspawn,
        List.forall_mem_singleton.mpr ⟨t, List.mem_concat_self, rfl, hd⟩⟩
      entry := hentry
      failed_iff := h.failed_iff
      latch := fun hf' => absurd (hf.symm.trans (h.failed_iff.mpr (.inl hf'))) Bool.false_ne_true
      skipped := h.skipped
      started := fun _ => by
        simp only [List.filter_append, List.map_append, ← h.started hf, List.filter_cons,
          if_pos (decide_eq_true hd), List.filter_nil, List.map_cons, List.map_nil] }
  · exact {
      perm := by
        simp only [gIds, rIds, List.map_append, List.append_assoc]
        refine (List.perm_append_comm.append_left _).trans ?_
        rewrite [← List.append_assoc]
        exact h.perm.append_right _
      spawn := hspawn
      entry := List.forall_mem_append.mpr ⟨hentry,
        List.forall_mem_singleton.mpr ⟨t, List.mem_concat_self, rfl, hst⟩⟩
      failed_iff := by
        simp only [Bool.or_eq_true, h.failed_iff, List.mem_append, List.mem_singleton, or_and_right,
          exists_or, exists_eq_left, or_assoc]
      latch := fun hf' => ⟨(h.latch hf').1, List.forall_mem_append.mpr ⟨(h.latch hf').2,
        List.forall_mem_singleton.mpr (hsk.mpr (h.failed_iff.mpr (.inl hf')))⟩⟩
      skipped := List.forall_mem_append.mpr
        ⟨fun e he hs => Bool.or_eq_true_iff.mpr (.inl (h.skipped e he hs)),
          List.forall_mem_singleton.mpr fun hs => Bool.or_eq_true_iff.mpr (.inl (hsk.mp hs))⟩
      started := fun hnf => by
        -- not failed afterwards: not failed before, so the entry is not `skipped` and `t` has no executable
        have hf : r.failed = false := (Bool.or_eq_false_iff.mp hnf).1
        have hnr : t.disp ≠ .run := fun hr =>
          absurd (hf.symm.trans (hsk.mp (hst.skipped_of_run hr))) Bool.false_ne_true
        simp only [List.filter_append, ← h.started hf, List.filter_cons,
          if_neg (mt of_decide_eq_true hnr), List.filter_nil, List.append_nil] }

theorem schedGroup_spec (fou f : Bool) (g : Group) : SchedSpec fou f g (schedGroup fou f g) := by
  have : ∀ (ts pre : List Task) (acc : Sched), SchedSpec fou f pre acc →
      SchedSpec fou f (pre ++ ts) (ts.foldl (schedMember fou) acc) := by
    intro ts
    induction ts with
    | nil => intro pre acc h; rwa [List.append_nil]
    | cons t ts ih =>
      intro pre acc h
      rewrite [List.append_cons]
      exact ih _ _ (h.step t)
  exact this g [] _ {
    perm := .refl _
    spawn := List.forall_mem_nil _
    entry := List.forall_mem_nil _
    failed_iff := (or_iff_left fun h => h.elim fun _ he => List.not_mem_nil he.1).symm
    latch := fun _ => ⟨rfl, List.forall_mem_nil _⟩
    skipped := List.forall_mem_nil _
    started := fun _ => rfl }

/-- `advance` stops at the first group that spawns something, or behind the last one; `pos` reads
the positions in any plan of which `rest` is the part from `gi` on -/
structure AdvSpec (fou : Bool) (rest : List Group) (gi : Nat) (f : Bool) (a : Adv) : Prop where
  le : gi ≤ a.gidx
  pos : ∀ plan : List Group, rest = plan.drop gi → a.rest = plan.drop (a.gidx + 1) ∧
    ∀ i ∈ a.spawns, ∃ g, plan[a.gidx]? = some g ∧ ∃ t ∈ g, t.id = i ∧ t.disp = .run
  perm : (rIds a.results ++ a.spawns ++ planIds a.rest).Perm (planIds rest)
  entry : ∀ e ∈ a.results, ∃ g ∈ rest, ∃ t ∈ g, t.id = e.1 ∧ EntryOk t e.2
  failed_iff : a.failed = true ↔ f = true ∨ ∃ e ∈ a.results, isFailure fou e.2 = true
  latch : f = true → a.spawns = [] ∧ ∀ e ∈ a.results, e.2 = .skipped
  skipped : ∀ e ∈ a.results, e.2 = .skipped → a.failed = true
  stop : a.spawns = [] → a.rest = []

theorem advance_spec (fou : Bool) (rest : List Group) (gi : Nat) (f : Bool) :
    AdvSpec fou rest gi f (advance fou rest gi f) := by
  have tl : ∀ {l plan : List Group} {gi : Nat}, l = plan.drop gi → l.tail = plan.drop (gi + 1) :=
    fun h => h ▸ List.tail_drop
  fun_induction advance fou rest gi f with
  | case1 gi f =>
    exact {
      le := Nat.le_refl _
      pos := fun _ hp => ⟨tl hp, List.forall_mem_nil _⟩
      perm := .refl _
      entry := List.forall_mem_nil _
      failed_iff := (or_iff_left fun h => h.elim fun _ he => List.not_mem_nil he.1).symm
      latch := fun _ => ⟨rfl, List.forall_mem_nil _⟩
      skipped := List.forall_mem_nil _
      stop := fun _ => rfl }
  | case2 g rest gi f r he a ih =>
    have hr : SchedSpec fou f g r := schedGroup_spec fou f g
    have ih : AdvSpec fou rest (gi + 1) r.failed a := ih
    have hp := hr.perm
    rewrite [List.isEmpty_iff.mp he, List.append_nil] at hp
    exact {
      le := Nat.le_of_succ_le ih.le
      pos := fun plan hp => ih.pos plan (tl hp)
      perm := by
        have := hp.append ih.perm
        simpa only [rIds, planIds, List.map_append, List.flatMap_cons, List.append_assoc] using this
      entry := List.forall_mem_append.mpr ⟨fun e he => ⟨g, List.mem_cons_self, hr.entry e he⟩,
        fun e he => (ih.entry e he).imp fun g' h => ⟨List.mem_cons_of_mem _ h.1, h.2⟩⟩
      failed_iff := by
        simp only [ih.failed_iff, hr.failed_iff, List.mem_append, or_and_right, exists_or, or_assoc]
      latch := fun hf =>
        have := ih.latch (hr.failed_iff.mpr (.inl hf))
        ⟨this.1, List.forall_mem_append.mpr ⟨(hr.latch hf).2, this.2⟩⟩
      skipped := List.forall_mem_append.mpr
        ⟨fun e he hs => ih.failed_iff.mpr (.inl (hr.skipped e he hs)), ih.skipped⟩
      stop := ih.stop }
  | case3 g rest gi f r he =>
    have hr : SchedSpec fou f g r := schedGroup_spec fou f g
    exact {
      le := Nat.le_refl _
      pos := fun plan hp => ⟨tl hp, fun i hi =>
        ⟨g, List.head?_drop.symm.trans (congrArg List.head? hp.symm), hr.spawn i hi⟩⟩
      perm := hr.perm.append_right _
      entry := fun e he => ⟨g, List.mem_cons_self, hr.entry e he⟩
      failed_iff := hr.failed_iff
      latch := hr.latch
      skipped := hr.skipped
      stop := fun h => absurd (List.isEmpty_iff.mpr h) he }

end Monorail
