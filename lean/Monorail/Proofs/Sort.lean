import Monorail.Model.Sort
import Monorail.Model.Path
/-! Generic facts about `sortDedupBy`; `pathLt` is core's lexicographic `<` on `List Nat`, hence a
strict total order. -/
namespace Monorail

structure StrictOrder {α : Type} (lt : α → α → Bool) : Prop where
  irrefl : ∀ a, lt a a = false
  trans : ∀ a b c, lt a b = true → lt b c = true → lt a c = true
  total : ∀ a b, lt a b = false → a ≠ b → lt b a = true

section
variable {α : Type} {lt : α → α → Bool}

theorem sorted_ext (h : StrictOrder lt) : ∀ {l1 l2 : List α},
    l1.Pairwise (fun a b => lt a b = true) → l2.Pairwise (fun a b => lt a b = true) →
    (∀ x, x ∈ l1 ↔ x ∈ l2) → l1 = l2 := by
  intro l1 l2 h1 h2 hm
  have ne {a b : α} (hab : lt a b = true) : a ≠ b := by
    rintro rfl
    exact Bool.eq_false_iff.mp (h.irrefl a) hab
  exact ((List.perm_ext_iff_of_nodup (h1.imp ne) (h2.imp ne)).mpr hm).eq_of_pairwise
    (fun a b _ _ hab hba => (ne (h.trans _ _ _ hab hba) rfl).elim) h1 h2

variable [DecidableEq α]

theorem mem_insertBy {x y : α} {l : List α} : y ∈ insertBy lt x l ↔ y = x ∨ y ∈ l := by
  fun_induction insertBy lt x l with
  | case1 => exact List.mem_cons
  | case2 a as h1 => rw [List.mem_cons]
  | case3 as h1 => rw [List.mem_cons, or_self_left]
  | case4 a as h1 h2 ih => rw [List.mem_cons, ih, List.mem_cons, or_left_comm]

theorem mem_sortDedupBy {y : α} {l : List α} : y ∈ sortDedupBy lt l ↔ y ∈ l := by
  induction l with
  | nil => exact Iff.rfl
  | cons a as ih =>
    rewrite [sortDedupBy, List.foldr_cons, mem_insertBy, List.mem_cons]
    exact or_congr_right ih

theorem insertBy_sorted (h : StrictOrder lt) {x : α} {l : List α}
    (hs : l.Pairwise (fun a b => lt a b = true)) :
    (insertBy lt x l).Pairwise (fun a b => lt a b = true) := by
  fun_induction insertBy lt x l with
  | case1 => exact List.pairwise_singleton _ _
  | case2 a as hxa =>
    exact .cons (List.forall_mem_cons.mpr
      ⟨hxa, fun b hb => h.trans _ _ _ hxa (List.rel_of_pairwise_cons hs hb)⟩) hs
  | case3 => exact hs
  | case4 a as hxa hne ih =>
    refine .cons (fun b hb => ?_) (ih hs.of_cons)
    rcases mem_insertBy.mp hb with rfl | hb
    · exact h.total _ _ (Bool.eq_false_iff.mpr hxa) hne
    · exact List.rel_of_pairwise_cons hs hb

theorem sortDedupBy_sorted (h : StrictOrder lt) (l : List α) :
    (sortDedupBy lt l).Pairwise (fun a b => lt a b = true) := by
  induction l with
  | nil => exact List.Pairwise.nil
  | cons a as ih => exact insertBy_sorted h ih

end

theorem pathLt_iff {a b : Path} : pathLt a b = true ↔ a < b := by
  fun_induction pathLt a b with
  | case1 | case3 => exact iff_of_false Bool.false_ne_true (List.not_lt_nil _)
  | case2 => exact iff_of_true rfl (List.nil_lt_cons _ _)
  | case4 a as b bs h => exact iff_of_true rfl (List.cons_lt_cons_iff.mpr (.inl h))
  | case5 a as b bs h1 h2 =>
    exact iff_of_false Bool.false_ne_true fun h =>
      (List.cons_lt_cons_iff.mp h).elim h1 fun h' => Nat.ne_of_gt h2 h'.1
  | case6 a as b bs h1 h2 ih =>
    cases Nat.le_antisymm (Nat.le_of_not_lt h2) (Nat.le_of_not_lt h1)
    exact ih.trans List.cons_lt_cons_self.symm

theorem pathLt_strict : StrictOrder pathLt where
  irrefl a := Bool.eq_false_iff.mpr fun h => List.lt_irrefl a (pathLt_iff.mp h)
  trans _ _ _ h1 h2 := pathLt_iff.mpr (List.lt_trans (pathLt_iff.mp h1) (pathLt_iff.mp h2))
  total _ _ h hne := pathLt_iff.mpr <|
    (List.le_iff_lt_or_eq.mp fun h' => Bool.eq_false_iff.mp h (pathLt_iff.mpr h')).resolve_right hne.symm

end Monorail
