import Monorail.Model.Graph
import Mathlib.Logic.Relation
import Mathlib.Data.Finset.Card
import Mathlib.Data.List.Perm.Subperm
namespace Monorail
open Relation

/-- "`x` depends on `a`" (an edge of the graph) -/
def Dep (g : Graph) (x a : Nat) : Prop := a ∈ g.out x

abbrev Reach1 (g : Graph) : Nat → Nat → Prop := TransGen (Dep g)
abbrev Reach (g : Graph) : Nat → Nat → Prop := ReflTransGen (Dep g)

/-- every edge points at an existing node (true of every graph `Index::new` builds) -/
def InRange (g : Graph) : Prop := ∀ u, ∀ v ∈ g.out u, v < g.size

/-- `b` occurs in a strictly earlier group than `a` -/
def Before (gs : List (List Nat)) (b a : Nat) : Prop :=
  ∃ pre B mid A post, gs = pre ++ B :: (mid ++ A :: post) ∧ b ∈ B ∧ a ∈ A

theorem getElem?_append_cons {α : Type} (pre : List α) (a : α) (post : List α) :
    (pre ++ a :: post)[pre.length]? = some a := by
  rw [List.getElem?_append_right (Nat.le_refl _), Nat.sub_self, List.getElem?_cons_zero]

theorem before_index {gs : List (List Nat)} {b a : Nat} (h : Before gs b a) :
    ∃ (i j : Nat) (B A : List Nat), i < j ∧ gs[i]? = some B ∧ gs[j]? = some A ∧ b ∈ B ∧ a ∈ A := by
  obtain ⟨pre, B, mid, A, post, rfl, hb, ha⟩ := h
  refine ⟨pre.length, pre.length + (mid.length + 1), B, A, Nat.lt_add_of_pos_right (Nat.succ_pos _),
    getElem?_append_cons .., ?_, hb, ha⟩
  rw [List.getElem?_append_right (Nat.le_add_right ..), Nat.add_sub_cancel_left,
    List.getElem?_cons_succ, getElem?_append_cons]

theorem before_iff_cut {gs : List (List Nat)} {b a : Nat} :
    Before gs b a ↔ ∃ l₁ l₂, gs = l₁ ++ l₂ ∧ b ∈ l₁.flatten ∧ a ∈ l₂.flatten := by
  constructor
  · rintro ⟨pre, B, mid, A, post, rfl, hb, ha⟩
    exact ⟨pre ++ B :: mid, A :: post, (List.append_assoc pre (B :: mid) (A :: post)).symm,
      List.mem_flatten_of_mem (List.mem_append_right _ List.mem_cons_self) hb,
      List.mem_flatten_of_mem List.mem_cons_self ha⟩
  · rintro ⟨l₁, l₂, rfl, hb, ha⟩
    obtain ⟨B, hB, hbB⟩ := List.mem_flatten.mp hb
    obtain ⟨A, hA, haA⟩ := List.mem_flatten.mp ha
    obtain ⟨pre, m₁, rfl⟩ := List.append_of_mem hB
    obtain ⟨m₂, post, rfl⟩ := List.append_of_mem hA
    exact ⟨pre, B, m₁ ++ m₂, A, post, by simp, hbB, haA⟩

theorem before_reverse {gs : List (List Nat)} {a b : Nat} (h : Before gs a b) :
    Before gs.reverse b a := by
  obtain ⟨l₁, l₂, rfl, ha, hb⟩ := before_iff_cut.mp h
  exact before_iff_cut.mpr ⟨l₂.reverse, l₁.reverse, List.reverse_append,
    (List.reverse_perm l₂).flatten.mem_iff.mpr hb, (List.reverse_perm l₁).flatten.mem_iff.mpr ha⟩

theorem mem_peel {g : Graph} {rem : List Nat} {v : Nat} :
    v ∈ peel g rem ↔ v ∈ rem ∧ ∀ u ∈ rem, v ∉ g.out u := by
  simp only [peel, List.mem_filter, List.all_eq_true, Bool.not_eq_true', List.contains_eq_mem,
    decide_eq_false_iff_not]

theorem peel_append_perm (g : Graph) (rem : List Nat) :
    (peel g rem ++ rem.filter (fun v => !(peel g rem).contains v)).Perm rem := by
  have h := List.filter_append_perm (fun v => (peel g rem).contains v) rem
  rwa [show rem.filter (fun v => (peel g rem).contains v) = peel g rem from
    List.filter_congr fun x hx => by
      rw [Bool.eq_iff_iff, List.contains_iff_mem, peel, List.mem_filter, and_iff_right hx]] at h

theorem mem_filter_not_peel {g : Graph} {rem : List Nat} {v : Nat} :
    v ∈ rem.filter (fun v => !(peel g rem).contains v) ↔ v ∈ rem ∧ v ∉ peel g rem := by
  rw [List.mem_filter, Bool.not_eq_true', ← Bool.not_eq_true, List.contains_iff_mem]

theorem layersAux_perm (g : Graph) (fuel : Nat) (rem : List Nat) :
    ((layersAux g fuel rem).1.flatten ++ (layersAux g fuel rem).2).Perm rem := by
  fun_induction layersAux g fuel rem with
  | case1 | case2 => exact .refl _
  | case3 fuel rem p hp r ih =>
    rewrite [List.flatten_cons, List.append_assoc]
    exact (ih.append_left _).trans (peel_append_perm g rem)

theorem layers_mem_subset (g : Graph) : ∀ (fuel : Nat) (rem : List Nat) (l : List Nat),
    l ∈ (layersAux g fuel rem).1 → ∀ v ∈ l, v ∈ rem :=
  fun fuel rem l h _ hv =>
    (layersAux_perm g fuel rem).subset (List.mem_append_left _ (List.mem_flatten.mpr ⟨l, h, hv⟩))

/-- If `u` (still remaining) depends on `v` and `v` is released in some layer, then `u` was
released in a strictly earlier layer. Needs no acyclicity. -/
theorem layersAux_order (g : Graph) (fuel : Nat) (rem : List Nat) {u v : Nat} (hu : u ∈ rem)
    (huv : v ∈ g.out u) (hv : v ∈ (layersAux g fuel rem).1.flatten) :
    Before (layersAux g fuel rem).1 u v := by
  fun_induction layersAux g fuel rem with
  | case1 | case2 => exact absurd hv List.not_mem_nil
  | case3 fuel rem p hp r ih =>
    rcases List.mem_append.mp hv with hvp | hvr
    · exact absurd huv ((mem_peel.mp hvp).2 u hu)
    · by_cases hup : u ∈ p
      · exact before_iff_cut.mpr ⟨[p], _, rfl, List.mem_append_left _ hup, hvr⟩
      · obtain ⟨l₁, l₂, e, hb, ha⟩ := before_iff_cut.mp (ih (mem_filter_not_peel.mpr ⟨hu, hup⟩) hvr)
        exact before_iff_cut.mpr ⟨p :: l₁, l₂, congrArg _ e, List.mem_append_right p hb, ha⟩

theorem layersAux_nonempty (g : Graph) (fuel : Nat) (rem : List Nat) :
    ∀ l ∈ (layersAux g fuel rem).1, l ≠ [] := by
  fun_induction layersAux g fuel rem with
  | case1 | case2 => exact List.forall_mem_nil _
  | case3 fuel rem p hp r ih =>
    intro l hl
    rcases List.mem_cons.mp hl with rfl | hl
    · exact fun h => hp (List.isEmpty_iff.mpr h)
    · exact ih l hl

/-- a set of remaining nodes in which everyone has a dependent inside the set is never released -/
theorem layersAux_stuck (g : Graph) (C : Nat → Prop) (hC : ∀ v, C v → ∃ u, C u ∧ v ∈ g.out u) (fuel : Nat)
    (rem : List Nat) (h : ∀ v, C v → v ∈ rem) : ∀ v, C v → v ∈ (layersAux g fuel rem).2 := by
  fun_induction layersAux g fuel rem with
  | case1 | case2 => exact h
  | case3 fuel rem p hp r ih =>
    refine ih fun w hw => mem_filter_not_peel.mpr ⟨h w hw, fun hwp => ?_⟩
    obtain ⟨u, huC, hwu⟩ := hC w hw
    exact (mem_peel.mp hwp).2 u (h u huC) hwu

theorem filter_not_peel_length_lt (g : Graph) (rem : List Nat) (h : peel g rem ≠ []) :
    (rem.filter (fun v => !(peel g rem).contains v)).length < rem.length := by
  rewrite [← (peel_append_perm g rem).length_eq, List.length_append]
  exact Nat.lt_add_of_pos_left (List.length_pos_iff.mpr h)

/-- with enough fuel, every node left over has a dependent among the nodes left over: they form a set
of the kind `layersAux_stuck` speaks of -/
theorem layersAux_leftover_stuck (g : Graph) (fuel : Nat) (rem : List Nat) :
    rem.length ≤ fuel → ∀ a ∈ (layersAux g fuel rem).2, ∃ u ∈ (layersAux g fuel rem).2, a ∈ g.out u := by
  fun_induction layersAux g fuel rem with
  | case1 rem =>
    intro h a ha
    rewrite [List.eq_nil_of_length_eq_zero (Nat.le_zero.mp h)] at ha
    exact absurd ha List.not_mem_nil
  | case2 fuel rem p hp =>
    exact fun _ a ha => by_contra fun hn => List.ne_nil_of_mem
      (mem_peel.mpr ⟨ha, fun u hu hau => hn ⟨u, hu, hau⟩⟩) (List.isEmpty_iff.mp hp)
  | case3 fuel rem p hp r ih =>
    exact fun h => ih (Nat.le_of_lt_succ (Nat.lt_of_lt_of_le
      (filter_not_peel_length_lt g rem (mt List.isEmpty_iff.mpr hp)) h))

theorem reach_closed {g : Graph} {P : Nat → Prop} (hc : ∀ u, P u → ∀ v ∈ g.out u, P v) {u x : Nat}
    (hu : P u) (h : Reach g u x) : P x := by
  induction h with
  | refl => exact hu
  | tail _ hstep ih => exact hc _ ih _ hstep

theorem dep_lt (g : Graph) {x a : Nat} (h : Dep g x a) : x < g.size := by
  by_contra hx
  rewrite [Dep, Graph.out, List.getD_eq_getElem?_getD,
    List.getElem?_eq_none (Nat.le_of_not_lt hx)] at h
  exact List.not_mem_nil h

theorem layers_perm (g : Graph) (vis : List Nat) :
    ((layers g vis).1.flatten ++ (layers g vis).2).Perm vis :=
  layersAux_perm g vis.length vis

theorem layers_leftover_subset (g : Graph) (vis : List Nat) : ∀ v ∈ (layers g vis).2, v ∈ vis :=
  fun _ hv => (layers_perm g vis).subset (List.mem_append_right _ hv)

/-- dependency edges that start inside `vis` -/
def DepOn (g : Graph) (vis : List Nat) (x a : Nat) : Prop := x ∈ vis ∧ a ∈ g.out x

/-- finitely many nodes: no cycle inside `vis` ⇒ `DepOn` is well founded -/
theorem wf_of_noCycle (g : Graph) (vis : List Nat) (h : ∀ v, ¬ TransGen (DepOn g vis) v v) :
    WellFounded (DepOn g vis) := by
  classical
  -- along an edge the set of nodes that reach the source gains the source and loses nothing
  refine Subrelation.wf (fun {x y} hxy => ?_) (measure fun x =>
    ((Finset.range g.size).filter (TransGen (DepOn g vis) · x)).card).wf
  exact Finset.card_lt_card <| (Finset.ssubset_iff_of_subset
    (Finset.monotone_filter_right _ fun z _ hz => hz.tail hxy)).mpr
    ⟨x, Finset.mem_filter.mpr ⟨Finset.mem_range.mpr (dep_lt g hxy.2), .single hxy⟩,
      fun hx => h x (Finset.mem_filter.mp hx).2⟩

theorem complete_of_noCycle (g : Graph) (vis : List Nat) (h : ∀ v ∈ vis, ¬ Reach1 g v v) :
    (layers g vis).2 = [] := by
  have hwf := wf_of_noCycle g vis fun v hv =>
    (TransGen.head'_iff.mp hv).elim fun _ hb => h v hb.1.1 (TransGen.mono (fun _ _ h => h.2) _ _ hv)
  -- a node left over has a dependent that is left over, and so on without end
  refine List.eq_nil_iff_forall_not_mem.mpr fun x => ?_
  induction x using hwf.induction with | _ x ih =>
  intro hx
  obtain ⟨u, hu, hxu⟩ := layersAux_leftover_stuck g _ vis (Nat.le_refl _) x hx
  exact ih u ⟨layers_leftover_subset g vis u hu, hxu⟩ hu

/-- a non-empty set inside `vis` each of whose members has a dependent in the set keeps the leftover
non-empty -/
theorem cyclic_leftover (g : Graph) (vis : List Nat) (C : Nat → Prop) (hsub : ∀ v, C v → v ∈ vis)
    (hC : ∀ v, C v → ∃ u, C u ∧ v ∈ g.out u) {c : Nat} (hc : C c) : (layers g vis).2 ≠ [] :=
  List.ne_nil_of_mem (layersAux_stuck g C hC vis.length vis hsub c hc)

theorem groups_ok_iff {g : Graph} {roots : List Nat} {gs : List (List Nat)} :
    groups g roots = .ok gs ↔
      (layers g (closure g roots)).2 = [] ∧ gs = (layers g (closure g roots)).1 := by
  by_cases h : (layers g (closure g roots)).2 = [] <;> simp [groups, h, eq_comm (a := gs)]

theorem groups_error_iff {g : Graph} {roots : List Nat} :
    groups g roots = .error .cycle ↔ (layers g (closure g roots)).2 ≠ [] := by
  by_cases h : (layers g (closure g roots)).2 = [] <;> simp [groups, h]

theorem labeledGroups_ok_iff {g : Graph} {roots : List Nat} {lgs : List (List Nat)} :
    labeledGroups g roots = .ok lgs ↔ ∃ gs, groups g roots = .ok gs ∧ lgs = gs.reverse := by
  unfold labeledGroups
  cases groups g roots <;> simp [eq_comm]

theorem labeledGroups_error_iff {g : Graph} {roots : List Nat} :
    labeledGroups g roots = .error .cycle ↔ groups g roots = .error .cycle := by
  unfold labeledGroups
  cases groups g roots <;> simp

theorem dedupNat_eq_dedup (l : List Nat) : dedupNat l = l.dedup := by
  fun_induction dedupNat l with
  | case1 => rfl
  | case2 x xs h ih => rw [ih, List.dedup_cons_of_mem (List.contains_iff_mem.mp h)]
  | case3 x xs h ih => rw [ih, List.dedup_cons_of_notMem (mt List.contains_iff_mem.mpr h)]

theorem mem_dedupNat {x : Nat} {l : List Nat} : x ∈ dedupNat l ↔ x ∈ l :=
  dedupNat_eq_dedup l ▸ List.mem_dedup

theorem dedupNat_nodup (l : List Nat) : (dedupNat l).Nodup :=
  dedupNat_eq_dedup l ▸ List.nodup_dedup l

theorem mem_expand {g : Graph} {s : List Nat} {x : Nat} :
    x ∈ expand g s ↔ x ∈ s ∨ (x < g.size ∧ ∃ u ∈ s, x ∈ g.out u) := by
  simp only [expand, mem_dedupNat, List.mem_append, List.mem_filter, List.mem_flatMap,
    decide_eq_true_eq, and_comm]

theorem subset_expand (g : Graph) (s : List Nat) : s ⊆ expand g s :=
  fun _ h => mem_expand.mpr (.inl h)

theorem subset_of_length_le {s t : List Nat} (hs : s.Nodup) (hst : s ⊆ t)
    (hlen : t.length ≤ s.length) : t ⊆ s :=
  ((List.subperm_of_subset hs hst).perm_of_length_le hlen).symm.subset

/-- what every round of `expand` preserves holds of the result -/
theorem closureAux_induct {g : Graph} {P : List Nat → Prop} (hstep : ∀ s, P s → P (expand g s))
    (fuel : Nat) {s : List Nat} (h : P s) : P (closureAux g fuel s) := by
  fun_induction closureAux g fuel s with
  | case1 | case2 => exact h
  | case3 fuel s s' hne ih => exact ih (hstep s h)

theorem expand_lt {g : Graph} {s : List Nat} (h : ∀ x ∈ s, x < g.size) : ∀ x ∈ expand g s, x < g.size :=
  fun x hx => (mem_expand.mp hx).elim (h x) (·.1)

/-- the fuel `g.size` suffices: every round that does not stop adds a node, and there are only
`g.size` of them -/
theorem closureAux_closed (g : Graph) (fuel : Nat) (s : List Nat) (hnd : s.Nodup)
    (hlt : ∀ x ∈ s, x < g.size) (hsz : g.size ≤ s.length + fuel) :
    ∀ u ∈ closureAux g fuel s, ∀ x ∈ g.out u, x < g.size → x ∈ closureAux g fuel s := by
  fun_induction closureAux g fuel s with
  | case1 s =>
    exact fun u _ x _ hx => subset_of_length_le hnd (fun y hy => List.mem_range.mpr (hlt y hy))
      (List.length_range.trans_le hsz) (List.mem_range.mpr hx)
  | case2 fuel s s' heq =>
    exact fun u hu x hx hlt => subset_of_length_le hnd (subset_expand g s)
      (Nat.le_of_eq (beq_iff_eq.mp heq)) (mem_expand.mpr (.inr ⟨hlt, u, hu, hx⟩))
  | case3 fuel s s' hne ih =>
    have hlt' := Nat.lt_of_le_of_ne
      (List.subperm_of_subset hnd (subset_expand g s)).length_le (Ne.symm (mt beq_iff_eq.mpr hne))
    exact ih (dedupNat_nodup _) (expand_lt hlt) (Nat.le_trans hsz (Nat.add_lt_add_right hlt' fuel))

theorem mem_roots {g : Graph} {roots : List Nat} {r : Nat} :
    r ∈ dedupNat (roots.filter (fun v => v < g.size)) ↔ r ∈ roots ∧ r < g.size := by
  rw [mem_dedupNat, List.mem_filter, decide_eq_true_eq]

theorem closure_nodup (g : Graph) (roots : List Nat) : (closure g roots).Nodup :=
  closureAux_induct (fun _ _ => dedupNat_nodup _) _ (dedupNat_nodup _)

theorem closure_lt (g : Graph) (roots : List Nat) : ∀ x ∈ closure g roots, x < g.size :=
  closureAux_induct (P := fun c => ∀ x ∈ c, x < g.size) (fun _ => expand_lt) _
    fun _ hx => (mem_roots.mp hx).2

theorem closure_closed_of_lt (g : Graph) (roots : List Nat) :
    ∀ u ∈ closure g roots, ∀ x ∈ g.out u, x < g.size → x ∈ closure g roots :=
  closureAux_closed g _ _ (dedupNat_nodup _) (fun _ hx => (mem_roots.mp hx).2) (Nat.le_add_left _ _)

theorem closure_closed (g : Graph) (hr : InRange g) (roots : List Nat) :
    ∀ u ∈ closure g roots, ∀ x ∈ g.out u, x ∈ closure g roots :=
  fun u hu x hx => closure_closed_of_lt g roots u hu x hx (hr u x hx)

theorem closure_reach (g : Graph) (hr : InRange g) (roots : List Nat) {u x : Nat}
    (hu : u ∈ closure g roots) (h : Reach g u x) : x ∈ closure g roots :=
  reach_closed (closure_closed g hr roots) hu h

theorem mem_closure (g : Graph) (hr : InRange g) (roots : List Nat) (x : Nat) :
    x ∈ closure g roots ↔ ∃ r ∈ roots, r < g.size ∧ Reach g r x := by
  constructor
  · refine closureAux_induct (P := fun c => ∀ x ∈ c, ∃ r ∈ roots, r < g.size ∧ Reach g r x)
      (fun s h x hx => ?_) _ (fun x hx => ⟨x, (mem_roots.mp hx).1, (mem_roots.mp hx).2, .refl⟩) x
    rcases mem_expand.mp hx with hx | ⟨_, u, hu, hux⟩
    · exact h x hx
    · obtain ⟨r, hr, hlt, hreach⟩ := h u hu
      exact ⟨r, hr, hlt, hreach.tail hux⟩
  · rintro ⟨r, hrr, hlt, hreach⟩
    exact closure_reach g hr roots (closureAux_induct (P := (r ∈ ·)) (fun s h => subset_expand g s h) _
      (mem_roots.mpr ⟨hrr, hlt⟩)) hreach

theorem mem_closure_of_lt (g : Graph) (hr : InRange g) {roots : List Nat}
    (hroots : ∀ r ∈ roots, r < g.size) (x : Nat) :
    x ∈ closure g roots ↔ ∃ r ∈ roots, Reach g r x := by
  rewrite [mem_closure g hr]
  exact exists_congr fun r => and_congr_right fun hrr => and_iff_right (hroots r hrr)

end Monorail
