import Monorail.Model.Analyze
import Monorail.Spec.C01
import Monorail.Proofs.Index
import Monorail.Proofs.Sort
namespace Monorail

/-- hypotheses of the C01 theorems: distinct target paths, every configured path normal -/
structure WFA (cfg : Config) : Prop where
  nodup : (cfg.map (·.path)).Nodup
  normalT : ∀ t ∈ cfg, Normal t.path
  normalU : ∀ t ∈ cfg, ∀ u ∈ t.uses, Normal u
  normalI : ∀ t ∈ cfg, ∀ g ∈ t.ignores, Normal g

theorem WFA.toWF {cfg : Config} (h : WFA cfg) : WF cfg := ⟨h.nodup, h.normalT⟩

theorem mem_ignoreTargets {cfg : Config} {p t : Path} :
    t ∈ ignoreTargets cfg p ↔ ∃ T ∈ cfg, T.path = t ∧ ∃ g ∈ T.ignores, hit g p = true := by
  simp only [ignoreTargets, allIgnores, ignore2targets, List.mem_flatMap, List.mem_filter,
    List.mem_map, List.contains_iff_mem]
  constructor
  · rintro ⟨g, ⟨-, hh⟩, T, ⟨hT, hg⟩, rfl⟩
    exact ⟨T, hT, rfl, g, hg, hh⟩
  · rintro ⟨T, hT, rfl, g, hg, hh⟩
    exact ⟨g, ⟨⟨T, hT, hg⟩, hh⟩, T, ⟨hT, hg⟩, rfl⟩

theorem mem_viaUses {cfg : Config} {p t : Path} :
    t ∈ viaUses cfg p ↔ t ∈ cfg.map (·.path) ∧ ∃ N ∈ cfg, hit t N.path = true ∧
      N.path ∉ ignoreTargets cfg p ∧ ∃ m ∈ N.uses, hit m p = true ∧ m ∉ ignoreTargets cfg p := by
  simp only [viaUses, allUses, use2targets, List.mem_flatMap, List.mem_filter, List.mem_map,
    Bool.and_eq_true, Bool.not_eq_true', ← Bool.not_eq_true, List.contains_iff_mem, mem_searchTargets]
  constructor
  · rintro ⟨m, ⟨-, hh, hmi⟩, _, ⟨⟨N, ⟨hN, hm⟩, rfl⟩, hNi⟩, ht, hh2⟩
    exact ⟨ht, N, hN, hh2, hNi, m, hm, hh, hmi⟩
  · rintro ⟨ht, N, hN, hh2, hNi, m, hm, hh, hmi⟩
    exact ⟨m, ⟨⟨N, hN, hm⟩, hh, hmi⟩, N.path, ⟨⟨N, ⟨hN, hm⟩, rfl⟩, hNi⟩, ht, hh2⟩

/-- hypotheses of the C01 theorems when paths may carry one trailing separator -/
structure WFAD (cfg : Config) : Prop where
  nodup : (cfg.map (fun t => dirOf t.path)).Nodup
  normalT : ∀ t ∈ cfg, Normal (dirOf t.path)
  normalU : ∀ t ∈ cfg, ∀ u ∈ t.uses, Normal (dirOf u)
  normalI : ∀ t ∈ cfg, ∀ g ∈ t.ignores, Normal (dirOf g)

/-- a change is never the directory named by a slash-terminated target path / uses / ignores entry -/
structure ChangeOk (cfg : Config) (p : Path) : Prop where
  target : ∀ T ∈ cfg, T.path.getLast? = some sep → p ≠ dirOf T.path
  uses : ∀ T ∈ cfg, ∀ u ∈ T.uses, u.getLast? = some sep → p ≠ dirOf u
  ignores : ∀ T ∈ cfg, ∀ g ∈ T.ignores, g.getLast? = some sep → p ≠ dirOf g

theorem WFAD.toWFD {cfg : Config} (h : WFAD cfg) : WFD cfg := ⟨h.nodup, h.normalT⟩

theorem WFA.toWFAD {cfg : Config} (h : WFA cfg) : WFAD cfg :=
  ⟨h.toWF.toWFD.nodup, h.toWF.toWFD.normal,
   fun t ht u hu => normal_dirOf (h.normalU t ht u hu),
   fun t ht g hg => normal_dirOf (h.normalI t ht g hg)⟩

/-- no entry of a configuration with normal paths ends with the separator -/
theorem changeOk_of_wfa {cfg : Config} (h : WFA cfg) (p : Path) : ChangeOk cfg p :=
  ⟨fun T hT hs => absurd hs (normal_getLast (h.normalT T hT)),
   fun T hT u hu hs => absurd hs (normal_getLast (h.normalU T hT u hu)),
   fun T hT g hg hs => absurd hs (normal_getLast (h.normalI T hT g hg))⟩

theorem ignD_normal {cfg : Config} (h : WFA cfg) {T : Target} (hT : T ∈ cfg) {p : Path} :
    IgnD T p ↔ Ign T p :=
  exists_congr fun g => and_congr_right fun hg => by rw [dirOf_normal (h.normalI T hT g hg)]

theorem affectedD_normal {cfg : Config} (h : WFA cfg) {strict : Bool} {p : Path} {T : Target} :
    AffectedD strict cfg p T ↔ Affected strict cfg p T := by
  have huc : ∀ u, UseCountsD cfg p u ↔ UseCounts cfg p u := fun u => not_congr <|
    exists_congr fun V => and_congr_right fun hV => and_congr_right fun _ => ignD_normal h hV
  refine and_congr_right fun hT => ?_
  rewrite [ignD_normal h hT, dirOf_normal (h.normalT T hT)]
  refine and_congr_right fun _ => or_congr_right <| exists_congr fun N => and_congr_right fun hN => ?_
  rewrite [ignD_normal h hN, dirOf_normal (h.normalT N hN)]
  refine and_congr_right fun _ => and_congr_right fun _ =>
    exists_congr fun u => and_congr_right fun hu => ?_
  rw [dirOf_normal (h.normalU N hN u hu), huc]

theorem mem_ignoreTargets_dir {cfg : Config} (h : WFAD cfg) {p : Path} (hp : ChangeOk cfg p) {t : Path} :
    t ∈ ignoreTargets cfg p ↔ ∃ V ∈ cfg, V.path = t ∧ IgnD V p := by
  rewrite [mem_ignoreTargets]
  refine exists_congr fun V => and_congr_right fun hV => and_congr_right fun _ => ?_
  exact exists_congr fun g => and_congr_right fun hg =>
    hit_dir (h.normalI V hV g hg) (hp.ignores V hV g hg)

theorem ign_iff_dir {cfg : Config} (h : WFAD cfg) {T : Target} (hT : T ∈ cfg) {p : Path}
    (hp : ChangeOk cfg p) : T.path ∈ ignoreTargets cfg p ↔ IgnD T p := by
  rewrite [mem_ignoreTargets_dir h hp]
  exact ⟨fun hi => hi.elim fun V hV => nodup_map_inj h.toWFD.nodupPath hV.1 hT hV.2.1 ▸ hV.2.2,
    fun hi => ⟨T, hT, rfl, hi⟩⟩

theorem useCounts_iff_dir {cfg : Config} (h : WFAD cfg) {p : Path} (hp : ChangeOk cfg p) (m : Path) :
    m ∉ ignoreTargets cfg p ↔ UseCountsD cfg p m :=
  not_congr (mem_ignoreTargets_dir h hp)

theorem mem_analyzeChange_targets {cfg : Config} {p t : Path} :
    t ∈ (analyzeChange cfg p).targets ↔
      (t ∈ searchTargets cfg p ∨ t ∈ viaUses cfg p) ∧ t ∉ ignoreTargets cfg p :=
  List.mem_filter.trans <| and_congr List.mem_append <| by
    rw [Bool.not_eq_true', ← Bool.not_eq_true, List.contains_iff_mem]

/-- what `analyze_change` reports, test by test, in the order of the clauses of `AffectedD` -/
theorem mem_analyzeChange_hits {cfg : Config} {p t : Path} :
    t ∈ (analyzeChange cfg p).targets ↔ t ∈ cfg.map (·.path) ∧ t ∉ ignoreTargets cfg p ∧
      (hit t p = true ∨ ∃ N ∈ cfg, hit t N.path = true ∧ N.path ∉ ignoreTargets cfg p ∧
        ∃ m ∈ N.uses, hit m p = true ∧ m ∉ ignoreTargets cfg p) := by
  rw [mem_analyzeChange_targets, mem_searchTargets, mem_viaUses, ← and_or_left, and_assoc,
    and_comm (b := t ∉ _)]

theorem chunksAux_flatten {α : Type} (k : Nat) (hk : 0 < k) (f : Nat) (l : List α)
    (h : l.length ≤ f) : (chunksAux k f l).flatten = l := by
  fun_induction chunksAux k f l with
  | case1 l => exact (List.length_eq_zero_iff.mp (Nat.le_zero.mp h)).symm
  | case2 => rfl
  | case3 f x xs ih =>
    rw [List.flatten_cons, ih, List.take_append_drop]
    rewrite [List.length_drop]
    exact Nat.le_trans (Nat.sub_le_sub_left hk _) (Nat.le_of_succ_le_succ h)

theorem chunks_flatten {α : Type} (k : Nat) (hk : 0 < k) (l : List α) : (chunks k l).flatten = l :=
  chunksAux_flatten k hk l.length l (Nat.le_refl _)

/-- batching is invisible in the summary: it is the sorted union over the changes -/
theorem analyze_targets_eq {cfg : Config} {cs : List Path} {k : Nat} (hk : 0 < k) :
    (analyze cfg cs k).targets =
      sortDedupBy pathLt (cs.flatMap fun p => (analyzeChange cfg p).targets) := by
  conv => rhs; rw [← chunks_flatten k hk cs, ← List.flatMap_id, List.flatMap_assoc]
  simp only [analyze, List.flatMap_map, id]

theorem mem_analyze_targets {cfg : Config} {cs : List Path} {k : Nat} (hk : 0 < k) {t : Path} :
    t ∈ (analyze cfg cs k).targets ↔ ∃ p ∈ cs, t ∈ (analyzeChange cfg p).targets := by
  rw [analyze_targets_eq hk, mem_sortDedupBy, List.mem_flatMap]

end Monorail
