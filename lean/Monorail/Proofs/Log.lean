import Monorail.Model.Log
namespace Monorail

theorem splitLines_spec (b : Bytes) : (splitLines b).1.flatten ++ (splitLines b).2 = b := by
  fun_induction splitLines b with
  | case1 => rfl
  | case2 xs r ih => exact congrArg (newline :: ·) ih
  | case3 x xs r hx hr ih | case4 x xs r hx l ls hr ih =>
    simp only [r, hr] at ih
    exact congrArg (x :: ·) ih

theorem splitLines_lines (b : Bytes) : ∀ l ∈ (splitLines b).1, ∃ body, l = body ++ [newline] ∧ newline ∉ body := by
  fun_induction splitLines b with
  | case1 | case3 => exact List.forall_mem_nil _
  | case2 xs r ih => exact List.forall_mem_cons.mpr ⟨⟨[], rfl, List.not_mem_nil⟩, ih⟩
  | case4 x xs r hx l ls hr ih =>
    simp only [r, hr, List.forall_mem_cons] at ih ⊢
    obtain ⟨⟨body, rfl, hb⟩, ih⟩ := ih
    exact ⟨⟨x :: body, rfl, List.not_mem_cons_of_ne_of_not_mem (Ne.symm hx) hb⟩, ih⟩

theorem splitLines_rest : ∀ b : Bytes, newline ∉ (splitLines b).2 := by
  intro b
  fun_induction splitLines b with
  | case1 => exact List.not_mem_nil
  | case2 xs r ih | case4 x xs r hx l ls hr ih => exact ih
  | case3 x xs r hx hr ih => exact List.not_mem_cons_of_ne_of_not_mem (Ne.symm hx) ih

theorem dataBytes_append (a b : List CReq) : dataBytes (a ++ b) = dataBytes a ++ dataBytes b := by
  induction a with
  | nil => rfl
  | cons r rest ih => cases r <;> simp [dataBytes, ih]

section
variable (ok : Nat → Bool) (s : RSt)

theorem flush_buf : (flush ok s).buf = s.buf := by
  fun_cases flush ok s <;> rfl

theorem flush_done : (flush ok s).done = s.done := by
  fun_cases flush ok s <;> rfl

theorem flush_out : (flush ok s).out = if s.lines = [] then s.out else s.out ++ [.data s.lines] := by
  fun_cases flush ok s with
  | case1 h => exact (if_pos (List.isEmpty_iff.mp h)).symm
  | case2 h | case3 h | case4 h => exact (if_neg (mt List.isEmpty_iff.mpr h)).symm

theorem flush_lines : (flush ok s).lines = [] := by
  fun_cases flush ok s with
  | case1 h => exact List.isEmpty_iff.mp h
  | case2 | case3 | case4 => rfl

theorem finish_eq (r : Bool) : finish ok s r =
    let t := flush ok { s with lines := s.lines ++ (if s.buf = [] then [] else [s.buf]), buf := [] }
    { t with out := t.out ++ [.endReq], done := some r } := by
  obtain ⟨buf, lines, out, blocks, client, writes, done⟩ := s
  cases buf <;> simp [finish]

theorem rstep_running (ev : REv) (h : s.done = none) : rstep ok s ev =
    match ev with
    | .chunk bs => let r := splitLines (s.buf ++ bs); { s with lines := s.lines ++ r.1, buf := r.2 }
    | .tick => flush ok s
    | .eof => finish ok s true
    | .cancel => finish ok s false :=
  if_neg (Option.not_isSome_iff_eq_none.mpr h)

theorem rstep_done (ev : REv) (h : s.done ≠ none) : rstep ok s ev = s :=
  if_pos (Option.isSome_iff_ne_none.mpr h)

theorem flush_bytes : dataBytes (flush ok s).out = dataBytes s.out ++ s.lines.flatten := by
  by_cases h : s.lines = [] <;> simp [flush_out, h, dataBytes_append, dataBytes]

theorem flush_endReq : CReq.endReq ∈ (flush ok s).out ↔ CReq.endReq ∈ s.out := by
  by_cases h : s.lines = [] <;> simp [flush_out, h]
end

/-- everything that matters for the compressor and for the reader's result -/
def coreOf (s : RSt) : Bytes × List Bytes × List CReq × Option Bool := (s.buf, s.lines, s.out, s.done)

/-- the core after a step is a function of the core before it: neither `ok` nor the listener fields enter -/
theorem rstep_core (ok ok' : Nat → Bool) (s t : RSt) (ev : REv) (h : coreOf s = coreOf t) :
    coreOf (rstep ok s ev) = coreOf (rstep ok' t ev) := by
  have hd : s.done = t.done := congrArg (·.2.2.2) h
  by_cases hs : s.done = none
  · rewrite [rstep_running ok s ev hs, rstep_running ok' t ev (hd ▸ hs)]
    simp only [coreOf, Prod.mk.injEq] at h
    have hfin (r : Bool) : coreOf (finish ok s r) = coreOf (finish ok' t r) := by
      simp only [coreOf, finish_eq, flush_buf, flush_lines, flush_out, h]
    cases ev with
    | chunk bs | tick => simp only [coreOf, flush_buf, flush_lines, flush_out, flush_done, h]
    | eof | cancel => exact hfin _
  · rwa [rstep_done ok s ev hs, rstep_done ok' t ev (hd ▸ hs)]

theorem rrun_core (ok ok' : Nat → Bool) (c c' : Bool) (evs : List REv) :
    coreOf (rrun ok c evs) = coreOf (rrun ok' c' evs) :=
  List.foldl_rel (r := fun s t => coreOf s = coreOf t) rfl fun ev _ s t => rstep_core ok ok' s t ev

/-- no end of stream inside the list -/
def Open (evs : List REv) : Prop := ∀ e ∈ evs, e ≠ .eof ∧ e ≠ .cancel

/-- the bytes handed to the compressor so far, then those read and still held back -/
def taken (s : RSt) : Bytes := dataBytes s.out ++ (s.lines.flatten ++ s.buf)

theorem finish_bytes (ok : Nat → Bool) (s : RSt) (r : Bool) : dataBytes (finish ok s r).out = taken s := by
  simp only [finish_eq, dataBytes_append, flush_bytes, dataBytes, taken]
  by_cases h : s.buf = [] <;> simp [h]

/-- stated with the events still to come, so that `open_inv` is a chain of these equations -/
theorem open_step (ok : Nat → Bool) (s : RSt) (e : REv) (rest : List REv) (he : e ≠ .eof ∧ e ≠ .cancel)
    (hd : s.done = none) :
    (rstep ok s e).done = none ∧ taken (rstep ok s e) ++ chunkBytes rest = taken s ++ chunkBytes (e :: rest) ∧
    (CReq.endReq ∈ (rstep ok s e).out → CReq.endReq ∈ s.out) := by
  rewrite [rstep_running ok s e hd]
  cases e with
  | chunk bs =>
    exact ⟨hd, by simp only [taken, chunkBytes, List.flatten_append, List.append_assoc, splitLines_spec], id⟩
  | tick =>
    exact ⟨(flush_done ok s).trans hd,
      by simp only [taken, flush_bytes, flush_lines, flush_buf, chunkBytes, List.flatten_nil, List.nil_append,
        List.append_assoc],
      (flush_endReq ok s).mp⟩
  | eof => exact absurd rfl he.1
  | cancel => exact absurd rfl he.2

theorem open_inv (ok : Nat → Bool) (evs : List REv) (hopen : Open evs) (s : RSt) (hd : s.done = none) :
    (evs.foldl (rstep ok) s).done = none ∧ taken (evs.foldl (rstep ok) s) = taken s ++ chunkBytes evs ∧
    (CReq.endReq ∉ s.out → CReq.endReq ∉ (evs.foldl (rstep ok) s).out) := by
  induction evs generalizing s with
  | nil => exact ⟨hd, (List.append_nil _).symm, id⟩
  | cons e rest ih =>
    obtain ⟨he, hrest⟩ := List.forall_mem_cons.mp hopen
    obtain ⟨s1, s2, s3⟩ := open_step ok s e rest he hd
    obtain ⟨i1, i2, i3⟩ := ih hrest _ s1
    exact ⟨i1, i2.trans s2, fun hn => i3 (mt s3 hn)⟩

end Monorail
