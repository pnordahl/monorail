import Monorail.Model.Dfs
import Monorail.Proofs.Graph
/-!
# The concrete visibility walk refines reachability

`DInv` is the loop invariant of `dfsStep`, `mu` the measure every iteration lowers. The idea of the
invariant: the stack is a path on which the successors an entry has gone past are visited and are
neither the entry nor below it (`StackInv`), so they are all finished when the entry is popped;
hence the finished nodes `fin` stay closed under successors, and none of them lies on a cycle (a
cycle through a node being popped would have to re-enter it from that closed set).
-/
namespace Monorail
open Relation

/-- the stack is a path: each entry `(n, i)` is reachable from every entry below it, and the
successors of `n` before position `i` are visited and are neither `n` nor below it -/
def StackInv (g : Graph) (visited : List Nat) : List (Nat × Nat) → Prop
  | [] => True
  | (n, i) :: rest =>
    (∀ v ∈ (g.out n).take i, v ∈ visited ∧ v ∉ n :: rest.map Prod.fst) ∧
      (∀ x ∈ rest.map Prod.fst, Reach g x n) ∧ StackInv g visited rest

section
variable {g : Graph} {visited : List Nat} {n i d : Nat} {rest : List (Nat × Nat)}

theorem stackInv_mono {visited' : List Nat} (hV : visited ⊆ visited') {st : List (Nat × Nat)}
    (h : StackInv g visited st) : StackInv g visited' st := by
  induction st with
  | nil => trivial
  | cons e rest ih => exact ⟨fun v hv => (h.1 v hv).imp_left (@hV v), h.2.1, ih h.2.2⟩

theorem stackInv_advance (hd : (g.out n)[i]? = some d)
    (hf : d ∈ visited ∧ d ∉ n :: rest.map Prod.fst) (h : StackInv g visited ((n, i) :: rest)) :
    StackInv g visited ((n, i + 1) :: rest) := by
  refine ⟨?_, h.2.1, h.2.2⟩
  rewrite [List.take_add_one, hd]
  exact List.forall_mem_append.mpr ⟨h.1, List.forall_mem_singleton.mpr hf⟩

end

def unvisitedW (g : Graph) (visited l : List Nat) : Nat :=
  ((l.diff visited).map (fun u => (g.out u).length + 2)).sum

def stackW (g : Graph) (st : List (Nat × Nat)) : Nat :=
  (st.map (fun e => (g.out e.1).length - e.2 + 2)).sum

/-- A fresh entry `(d, 0)` weighs what the unvisited `d` did, so pushing is neutral (`stackW_push`):
an iteration lowers `mu` by removing the top entry or by advancing its index. `dfsFuel` is the
weight of all nodes plus two, so the start state lies below it. -/
def mu (g : Graph) (s : DSt) : Nat := stackW g s.stack + unvisitedW g s.visited (List.range g.size)

theorem stackW_nil (g : Graph) : stackW g [] = 0 := rfl

theorem stackW_cons (g : Graph) (n i : Nat) (st : List (Nat × Nat)) :
    stackW g ((n, i) :: st) = (g.out n).length - i + 2 + stackW g st :=
  List.sum_cons

theorem stackW_lt_cons (g : Graph) (e : Nat × Nat) (st : List (Nat × Nat)) :
    stackW g st < stackW g (e :: st) :=
  Nat.lt_add_of_pos_left (Nat.succ_pos _)

theorem stackW_advance {g : Graph} {n i d : Nat} (hd : (g.out n)[i]? = some d) (st : List (Nat × Nat)) :
    stackW g ((n, i + 1) :: st) < stackW g ((n, i) :: st) := by
  have hi := (List.getElem?_eq_some_iff.mp hd).1
  rewrite [stackW_cons, stackW_cons]
  exact Nat.add_lt_add_right
    (Nat.add_lt_add_right (Nat.sub_lt_sub_left hi (Nat.lt_succ_self i)) 2) _

theorem stackW_push (g : Graph) {visited l : List Nat} {d : Nat} (hd : d ∉ visited) (hdl : d ∈ l)
    (st : List (Nat × Nat)) :
    stackW g ((d, 0) :: st) + unvisitedW g (d :: visited) l = stackW g st + unvisitedW g visited l := by
  have hp := List.perm_cons_erase (List.mem_diff_of_mem hdl hd)
  rewrite [stackW_cons, unvisitedW, unvisitedW, List.diff_cons_right, (hp.map _).sum_nat,
    List.map_cons, List.sum_cons, Nat.sub_zero, Nat.add_right_comm]
  exact Nat.add_comm ..

section
variable {g : Graph} {root n i d : Nat} {vis0 fin visited active vis : List Nat}
  {rest : List (Nat × Nat)}

theorem dfsStep_nil : dfsStep g ⟨[], visited, active, vis⟩ = .done vis := rfl

theorem dfsStep_pop (hd : (g.out n)[i]? = none) :
    dfsStep g ⟨(n, i) :: rest, visited, active, vis⟩ = .running ⟨rest, visited, active.erase n, vis⟩ := by
  simp only [dfsStep, hd]

theorem dfsStep_cycle (hd : (g.out n)[i]? = some d) (ha : d ∈ active) :
    dfsStep g ⟨(n, i) :: rest, visited, active, vis⟩ = .cycle d := by
  simp only [dfsStep, hd, List.contains_iff_mem.mpr ha, if_true]

theorem dfsStep_skip (hd : (g.out n)[i]? = some d) (ha : d ∉ active) (hv : d ∈ visited) :
    dfsStep g ⟨(n, i) :: rest, visited, active, vis⟩ =
      .running ⟨(n, i + 1) :: rest, visited, active, vis⟩ := by
  simp only [dfsStep, hd, List.contains_iff_mem, ha, hv, if_true, if_false]

theorem dfsStep_push (hd : (g.out n)[i]? = some d) (ha : d ∉ active) (hv : d ∉ visited) :
    dfsStep g ⟨(n, i) :: rest, visited, active, vis⟩ =
      .running ⟨(d, 0) :: (n, i + 1) :: rest, d :: visited, d :: active, vis.insert d⟩ := by
  simp only [dfsStep, hd, List.contains_iff_mem, ha, hv, if_false, List.insert_eq]

/-- `fin`: the finished nodes (visited, no longer on the stack) -/
structure DInv (g : Graph) (root : Nat) (vis0 fin : List Nat) (s : DSt) : Prop where
  active_eq : s.active = s.stack.map Prod.fst
  visited_perm : (fin ++ s.active).Perm s.visited
  visited_nodup : s.visited.Nodup
  visited_reach : ∀ x ∈ s.visited, Reach g root x
  root_mem : root ∈ s.visited
  closed : ∀ u ∈ fin, ∀ v ∈ g.out u, v ∈ fin
  acyclic : ∀ u ∈ fin, ¬ Reach1 g u u
  stack : StackInv g s.visited s.stack
  vis_eq : s.vis = s.visited ∪ vis0

theorem DInv.init : DInv g root vis0 [] ⟨[(root, 0)], [root], [root], vis0.insert root⟩ where
  active_eq := rfl
  visited_perm := .refl _
  visited_nodup := List.nodup_singleton _
  visited_reach := List.forall_mem_singleton.mpr .refl
  root_mem := List.mem_singleton_self _
  closed := List.forall_mem_nil _
  acyclic := List.forall_mem_nil _
  stack := ⟨List.forall_mem_nil _, List.forall_mem_nil _, trivial⟩
  vis_eq := rfl

variable (h : DInv g root vis0 fin ⟨(n, i) :: rest, visited, active, vis⟩)
include h

theorem DInv.active_cons : active = n :: rest.map Prod.fst := h.active_eq

theorem DInv.reach_succ (hd : (g.out n)[i]? = some d) : Reach g root d :=
  have hn := h.visited_perm.subset (List.mem_append_right fin (h.active_cons ▸ List.mem_cons_self))
  (h.visited_reach n hn).tail (List.mem_of_getElem? hd)

theorem DInv.cycle (hd : (g.out n)[i]? = some d) (ha : d ∈ active) : Reach g root d ∧ Reach1 g d d := by
  have hdep : Dep g n d := List.mem_of_getElem? hd
  refine ⟨h.reach_succ hd, ?_⟩
  rewrite [h.active_cons] at ha
  rcases List.mem_cons.mp ha with rfl | ha
  · exact .single hdep
  · exact .tail' (h.stack.2.1 d ha) hdep

theorem DInv.skip (hd : (g.out n)[i]? = some d) (ha : d ∉ active) (hv : d ∈ visited) :
    DInv g root vis0 fin ⟨(n, i + 1) :: rest, visited, active, vis⟩ :=
  { h with stack := stackInv_advance hd ⟨hv, h.active_cons ▸ ha⟩ h.stack }

theorem DInv.push (hd : (g.out n)[i]? = some d) (ha : d ∉ active) (hv : d ∉ visited) :
    DInv g root vis0 fin
      ⟨(d, 0) :: (n, i + 1) :: rest, d :: visited, d :: active, vis.insert d⟩ :=
  { h with
    active_eq := congrArg (d :: ·) h.active_eq
    visited_perm := List.perm_middle.trans (h.visited_perm.cons d)
    visited_nodup := List.nodup_cons.mpr ⟨hv, h.visited_nodup⟩
    visited_reach := List.forall_mem_cons.mpr ⟨h.reach_succ hd, h.visited_reach⟩
    root_mem := List.mem_cons_of_mem _ h.root_mem
    stack :=
      have hdep : Dep g n d := List.mem_of_getElem? hd
      ⟨List.forall_mem_nil _,
        List.forall_mem_cons.mpr ⟨.single hdep, fun x hx => (h.stack.2.1 x hx).tail hdep⟩,
        stackInv_advance hd ⟨List.mem_cons_self, h.active_cons ▸ ha⟩
          (stackInv_mono (List.subset_cons_self ..) h.stack)⟩
    vis_eq := by rw [List.cons_union, ← h.vis_eq] }

theorem DInv.pop (hd : (g.out n)[i]? = none) :
    DInv g root vis0 (n :: fin) ⟨rest, visited, active.erase n, vis⟩ := by
  obtain rfl := h.active_cons
  rewrite [List.erase_cons_head]
  have hsucc : ∀ v ∈ g.out n, v ∈ fin := fun v hv =>
    have hf := h.stack.1 v ((List.take_of_length_le (List.getElem?_eq_none_iff.mp hd)).symm ▸ hv)
    (List.mem_append.mp (h.visited_perm.mem_iff.mpr hf.1)).resolve_right hf.2
  have hn : n ∉ fin := fun hn => List.disjoint_of_nodup_append
    (h.visited_perm.nodup_iff.mpr h.visited_nodup) hn List.mem_cons_self
  refine { h with
    active_eq := rfl
    visited_perm := List.perm_middle.symm.trans h.visited_perm
    closed := List.forall_mem_cons.mpr ⟨fun v hv => List.mem_cons_of_mem _ (hsucc v hv),
      fun u hu v hv => List.mem_cons_of_mem _ (h.closed u hu v hv)⟩
    acyclic := List.forall_mem_cons.mpr ⟨fun hcyc => ?_, h.acyclic⟩
    stack := h.stack.2.2 }
  -- the first step from `n` leads into `fin`, which is closed and does not contain `n`
  obtain ⟨b, hb, hbn⟩ := TransGen.head'_iff.mp hcyc
  exact hn (reach_closed h.closed (hsucc b hb) hbn)

end

inductive StepSpec (g : Graph) (root : Nat) (vis0 : List Nat) (s : DSt) : DRes → Prop where
  | done : s.stack = [] → StepSpec g root vis0 s (.done s.vis)
  | cycle (c : Nat) : Reach g root c → Reach1 g c c → StepSpec g root vis0 s (.cycle c)
  | running (s' : DSt) (fin' : List Nat) : DInv g root vis0 fin' s' → mu g s' < mu g s →
      StepSpec g root vis0 s (.running s')

theorem dfsStep_spec {g : Graph} (hr : InRange g) {root : Nat} {vis0 fin : List Nat} {s : DSt}
    (h : DInv g root vis0 fin s) : StepSpec g root vis0 s (dfsStep g s) := by
  obtain ⟨_ | ⟨⟨n, i⟩, rest⟩, visited, active, vis⟩ := s
  · rewrite [dfsStep_nil]
    exact .done rfl
  cases hd : (g.out n)[i]? with
  | none =>
    rewrite [dfsStep_pop hd]
    exact .running _ _ (h.pop hd) (Nat.add_lt_add_right (stackW_lt_cons ..) _)
  | some d =>
    by_cases ha : d ∈ active
    · rewrite [dfsStep_cycle hd ha]
      exact (h.cycle hd ha).elim (.cycle d)
    by_cases hv : d ∈ visited
    · rewrite [dfsStep_skip hd ha hv]
      exact .running _ _ (h.skip hd ha hv) (Nat.add_lt_add_right (stackW_advance hd rest) _)
    · rewrite [dfsStep_push hd ha hv]
      have hd_lt := List.mem_range.mpr (hr n d (List.mem_of_getElem? hd))
      exact .running _ _ (h.push hd ha hv)
        ((stackW_push g hv hd_lt _).trans_lt (Nat.add_lt_add_right (stackW_advance hd rest) _))

/-- what a walk from `root` over a graph whose visible nodes were `vis0` ends with -/
inductive RunSpec (g : Graph) (root : Nat) (vis0 : List Nat) : Except DErr (List Nat) → Prop where
  | ok (vis' : List Nat) : (∀ x, x ∈ vis' ↔ x ∈ vis0 ∨ Reach g root x) → vis'.Nodup →
      (∀ x, Reach g root x → ¬ Reach1 g x x) → RunSpec g root vis0 (.ok vis')
  | cycle (c : Nat) : Reach g root c → Reach1 g c c → RunSpec g root vis0 (.error (.cycle c))

/-- the stack is empty: everything visited is finished, and the finished nodes are closed under
successors -/
theorem DInv.done {g : Graph} {root : Nat} {vis0 fin : List Nat} {s : DSt}
    (h : DInv g root vis0 fin s) (hnil : s.stack = []) (hnd : vis0.Nodup) :
    RunSpec g root vis0 (.ok s.vis) := by
  have hp : fin.Perm s.visited := by
    simpa only [h.active_eq, hnil, List.map_nil, List.append_nil] using h.visited_perm
  have hvisited (x : Nat) : x ∈ s.visited ↔ Reach g root x :=
    ⟨h.visited_reach x, fun hx => hp.subset (reach_closed h.closed (hp.mem_iff.mpr h.root_mem) hx)⟩
  refine .ok s.vis (fun x => ?_) (h.vis_eq ▸ hnd.union _) fun x hx => ?_
  · rw [h.vis_eq, List.mem_union_iff, hvisited, or_comm]
  · exact h.acyclic x (hp.mem_iff.mpr ((hvisited x).mpr hx))

theorem dfsRun_spec {g : Graph} (hr : InRange g) {root : Nat} {vis0 : List Nat} (hnd : vis0.Nodup)
    (fuel : Nat) {s : DSt} {fin : List Nat} (h : DInv g root vis0 fin s) (hmu : mu g s < fuel) :
    RunSpec g root vis0 (dfsRun g fuel s) := by
  induction fuel generalizing s fin with
  | zero => exact absurd hmu (Nat.not_lt_zero _)
  | succ fuel ih =>
    have hs := dfsStep_spec hr h
    unfold dfsRun
    generalize dfsStep g s = r at hs
    cases hs with
    | done hnil => exact h.done hnil hnd
    | cycle c h1 h2 => exact .cycle c h1 h2
    | running s' fin' hinv hlt => exact ih hinv (Nat.lt_of_lt_of_le hlt (Nat.le_of_lt_succ hmu))

/-- **The visibility walk.** On a graph whose edges point at existing nodes, for an existing `root`
and any duplicate-free set `vis0` of already visible nodes: `set_subtree_visibility` either ends
with exactly `vis0 ∪ {x | root →* x}` visible - and then no node reachable from `root` lies on a
cycle - or reports a node that is reachable from `root` and lies on a cycle. Its loop terminates
(the fuel is never exhausted). -/
theorem setVisible_spec {g : Graph} (hr : InRange g) {root : Nat} (hroot : root < g.size)
    {vis0 : List Nat} (hnd : vis0.Nodup) : RunSpec g root vis0 (setVisible g vis0 root) := by
  -- the start state of `setVisible` is that of `DInv.init`: its `if` is `List.insert` unfolded
  refine dfsRun_spec hr hnd _ DInv.init
    ((stackW_push g List.not_mem_nil (List.mem_range.mpr hroot) []).trans_lt ?_)
  rewrite [stackW_nil, Nat.zero_add]
  exact Nat.lt_add_of_pos_right (Nat.succ_pos 1)

inductive VisSpec (g : Graph) (roots : List Nat) (vis0 : List Nat) : Except DErr (List Nat) → Prop where
  | ok (vis' : List Nat) : (∀ x, x ∈ vis' ↔ x ∈ vis0 ∨ ∃ r ∈ roots, Reach g r x) → vis'.Nodup →
      (∀ r ∈ roots, ∀ x, Reach g r x → ¬ Reach1 g x x) → VisSpec g roots vis0 (.ok vis')
  | cycle (c : Nat) : (∃ r ∈ roots, Reach g r c) → Reach1 g c c → VisSpec g roots vis0 (.error (.cycle c))

theorem visibleOf_spec {g : Graph} (hr : InRange g) : ∀ (roots vis0 : List Nat),
    (∀ r ∈ roots, r < g.size) → vis0.Nodup → VisSpec g roots vis0 (visibleOf g roots vis0) := by
  intro roots
  induction roots with
  | nil =>
    intro vis0 _ hnd
    exact .ok vis0 (by simp) hnd (List.forall_mem_nil _)
  | cons r rs ih =>
    intro vis0 hlt hnd
    have hlt := List.forall_mem_cons.mp hlt
    have h1 := setVisible_spec hr hlt.1 hnd
    unfold visibleOf
    generalize setVisible g vis0 r = res at h1
    cases h1 with
    | cycle c hc1 hc2 => exact .cycle c ⟨r, List.mem_cons_self, hc1⟩ hc2
    | ok vis1 hmem1 hnd1 hac1 =>
      have h2 := ih vis1 hlt.2 hnd1
      simp only
      generalize visibleOf g rs vis1 = res2 at h2
      cases h2 with
      | cycle c hc1 hc2 =>
        exact .cycle c (hc1.imp fun _ => And.imp_left (List.mem_cons_of_mem r)) hc2
      | ok vis2 hmem2 hnd2 hac2 =>
        refine .ok vis2 (fun x => ?_) hnd2 (List.forall_mem_cons.mpr ⟨hac1, hac2⟩)
        rw [hmem2, hmem1, List.exists_mem_cons_iff, or_assoc]

end Monorail
