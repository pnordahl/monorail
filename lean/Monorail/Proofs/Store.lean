import Monorail.Model.Store
namespace Monorail

theorem nextId_some {p max : Nat} (hp : p ≤ max) : nextId (some p) max = p % max + 1 := by
  unfold nextId
  rcases Nat.lt_or_eq_of_le hp with h | rfl
  · simp [Nat.mod_eq_of_lt h, Nat.not_le.mpr h]
  · simp

theorem nextId_ne_pointer (max : Nat) (hmax : 2 ≤ max) (p : Nat) : nextId (some p) max ≠ p := by
  simp only [nextId, Option.getD_some]
  split
  · exact Nat.ne_of_lt (Nat.lt_of_lt_of_le hmax ‹_›)
  · exact Nat.succ_ne_self p

/-- the slot the `n+1`-th run uses; the argument of `nextId` is the pointer after `n` runs -/
theorem nextId_after (max : Nat) (hmax : 0 < max) (n : Nat) :
    nextId (if n = 0 then none else some ((n - 1) % max + 1)) max = n % max + 1 := by
  cases n with
  | zero => simp [nextId]
  | succ m =>
    rw [if_neg (Nat.succ_ne_zero m), Nat.add_sub_cancel, nextId_some (p := m % max + 1) (Nat.mod_lt m hmax),
      Nat.mod_add_mod]

theorem mod_ne_of_close {j n max : Nat} (hjn : j < n) (hclose : n < j + max) : j % max ≠ n % max := fun h => by
  have h0 := Nat.sub_mod_eq_zero_of_mod_eq h.symm
  rewrite [Nat.mod_eq_of_lt (Nat.sub_lt_left_of_lt_add (Nat.le_of_lt hjn) hclose)] at h0
  exact Nat.ne_of_gt (Nat.sub_pos_of_lt hjn) h0

/-- an id outside `1 … min (n+1) max` is not the slot run `n+1` writes, and was outside
`1 … min n max` before it -/
theorem beyond_succ {i n max : Nat} (hmax : 0 < max) (hi : i = 0 ∨ i > min (n + 1) max) :
    i ≠ n % max + 1 ∧ (i = 0 ∨ i > min n max) := by
  rcases hi with rfl | hi
  · exact ⟨(Nat.succ_ne_zero _).symm, .inl rfl⟩
  · -- slot `n % max + 1` lies within `min (n + 1) max`, and `min n max` does not exceed that bound
    have hnext := Nat.le_min.mpr ⟨Nat.succ_le_succ (Nat.mod_le n max), Nat.mod_lt n hmax⟩
    have hmono := Nat.le_min.mpr ⟨Nat.le_succ_of_le (Nat.min_le_left n max), Nat.min_le_right n max⟩
    exact ⟨Nat.ne_of_gt (Nat.lt_of_le_of_lt hnext hi), .inr (Nat.lt_of_le_of_lt hmono hi)⟩

/-- an effect that can only touch slot `n` and the temporary pointer file; the rename is the one
that is not -/
def LocalTo (n : Nat) : Eff → Prop
  | .wipe i => i = n
  | .mkSlot i => i = n
  | .writeLog i _ _ => i = n
  | .writeResult i _ => i = n
  | .ptrTmp _ => True
  | .ptrRename => False

theorem setSlot_ne {slots : Nat → Option Slot} {i j : Nat} {v : Option Slot} (h : j ≠ i) :
    setSlot slots i v j = slots j := if_neg h

theorem setSlot_eq {slots : Nat → Option Slot} {i : Nat} {v : Option Slot} :
    setSlot slots i v i = v := if_pos rfl

/-- `t` differs from `s` at most in slot `n` and the temporary pointer file -/
def Frame (n : Nat) (s t : Store) : Prop := t.pointer = s.pointer ∧ ∀ j, j ≠ n → t.slots j = s.slots j

theorem Frame.trans {n : Nat} {s t u : Store} (h1 : Frame n s t) (h2 : Frame n t u) : Frame n s u :=
  ⟨h2.1.trans h1.1, fun j hj => (h2.2 j hj).trans (h1.2 j hj)⟩

theorem Frame.refl (n : Nat) (s : Store) : Frame n s s := ⟨rfl, fun _ _ => rfl⟩

theorem Frame.setSlot (n : Nat) (s : Store) (v : Option Slot) :
    Frame n s { s with slots := setSlot s.slots n v } := ⟨rfl, fun _ hj => setSlot_ne hj⟩

theorem applyEff_local {n : Nat} {e : Eff} (he : LocalTo n e) (s : Store) : Frame n s (applyEff s e) := by
  cases e with
  | ptrTmp v => exact ⟨rfl, fun _ _ => rfl⟩
  | ptrRename => cases he
  | wipe i | mkSlot i => cases he; exact .setSlot ..
  | writeLog i | writeResult i =>
    cases he
    rewrite [applyEff]
    cases s.slots n with
    | none => exact .refl ..
    | some sl => exact .setSlot ..

theorem applyAll_local {n : Nat} (effs : List Eff) (h : ∀ e ∈ effs, LocalTo n e) (s : Store) :
    Frame n s (applyAll s effs) :=
  List.foldlRecOn effs applyEff (motive := Frame n s) (.refl n s)
    fun t ht e he => ht.trans (applyEff_local (h e he) t)

theorem applyAll_append (s : Store) (a b : List Eff) : applyAll s (a ++ b) = applyAll (applyAll s a) b :=
  List.foldl_append

theorem applyAll_cons (s : Store) (e : Eff) (es : List Eff) : applyAll s (e :: es) = applyAll (applyEff s e) es := rfl

theorem applyAll_nil (s : Store) : applyAll s [] = s := rfl

/-- the effects of a run before the final rename, all of them local to slot `n`; a copy of the head
of `runEffects`, which `runEffects_eq` keeps in step with it -/
def runBody (n : Nat) (r : Run) : List Eff :=
  [.wipe n, .mkSlot n] ++ r.logs.map (fun kc => .writeLog n kc.1 (.full kc.2)) ++
    [.writeResult n (.full r.doc), .ptrTmp n]

theorem runEffects_eq (max : Nat) (s : Store) (r : Run) :
    runEffects max s r = runBody (nextId s.pointer max) r ++ [.ptrRename] := by
  rewrite [runBody, List.append_assoc]
  rfl

theorem runBody_local (n : Nat) (r : Run) : ∀ e ∈ runBody n r, LocalTo n e := by
  intro e he
  simp only [runBody, List.mem_append, List.mem_cons, List.mem_map, List.not_mem_nil, or_false] at he
  rcases he with ((rfl | rfl) | ⟨kc, _, rfl⟩) | rfl | rfl <;> simp [LocalTo]

theorem setSlot_congr {f g : Nat → Option Slot} {n : Nat} (h : ∀ j, j ≠ n → f j = g j) (v : Option Slot) :
    setSlot f n v = setSlot g n v := by
  funext j
  by_cases hj : j = n
  · rw [hj, setSlot_eq, setSlot_eq]
  · rw [setSlot_ne hj, setSlot_ne hj, h j hj]

theorem setSlot_setSlot (f : Nat → Option Slot) (n : Nat) (a b : Option Slot) :
    setSlot (setSlot f n a) n b = setSlot f n b :=
  setSlot_congr (fun _ hj => setSlot_ne hj) b

theorem writeLogs_eq (n : Nat) (logs : List (Nat × Nat)) (p t : Option Nat) (f : Nat → Option Slot) (sl : Slot) :
    applyAll ⟨p, t, setSlot f n (some sl)⟩ (logs.map fun kc => .writeLog n kc.1 (.full kc.2)) =
      ⟨p, t, setSlot f n (some { sl with logs := logs.foldl (fun l kc => setLog l kc.1 (.full kc.2)) sl.logs })⟩ := by
  induction logs generalizing sl with
  | nil => rfl
  | cons kc rest ih =>
    simp only [List.map_cons, applyAll_cons, List.foldl_cons, applyEff, setSlot_eq, setSlot_setSlot]
    exact ih _

theorem runBody_eq (n : Nat) (r : Run) (s : Store) :
    applyAll s (runBody n r) = ⟨s.pointer, some n, setSlot s.slots n (some (slotOfRun r))⟩ := by
  simp only [runBody, applyAll_append, applyAll_cons, applyAll_nil, applyEff, setSlot_setSlot, writeLogs_eq, setSlot_eq]
  rfl

theorem doRun_eq (max : Nat) (s : Store) (r : Run) :
    doRun max s r =
      ⟨some (nextId s.pointer max), none, setSlot s.slots (nextId s.pointer max) (some (slotOfRun r))⟩ := by
  unfold doRun
  rewrite [runEffects_eq, applyAll_append, runBody_eq]
  rfl

theorem doRun_congr {max : Nat} {s t : Store} (h : Frame (nextId s.pointer max) s t) (r : Run) :
    doRun max t r = doRun max s r := by
  rw [doRun_eq, doRun_eq, h.1, setSlot_congr h.2]

theorem history_concat (max : Nat) (rs : List Run) (r : Run) :
    history max (rs ++ [r]) = doRun max (history max rs) r := by
  simp [history]

theorem show_congr {s t : Store} (hp : t.pointer = s.pointer)
    (hs : ∀ p, s.pointer = some p → t.slots p = s.slots p) :
    resultShow t = resultShow s ∧ logShow t none = logShow s none := by
  unfold resultShow logShow
  rewrite [hp]
  cases h : s.pointer with
  | none => exact ⟨rfl, rfl⟩
  | some p => simp only [hs p h, and_self]

end Monorail
