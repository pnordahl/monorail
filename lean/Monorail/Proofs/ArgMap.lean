import Monorail.Model.ArgMap
/-!
Lemmas about the argument table. Every level of `buildTable` only appends to what `getArgs` /
`lookupArgs` observe. Where the level is a fold (over the argmap files of a target, over the
targets) `foldl_append_flatMap` turns that into a `flatMap`; where it is an update at one key
(`mergeCmd`, `mergeTarget`) the case analysis is `ite_update`.
-/
namespace Monorail

theorem foldl_append_flatMap {σ α β : Type} (obs : σ → List β) (step : σ → α → σ)
    (contrib : α → List β) (h : ∀ s a, obs (step s a) = obs s ++ contrib a) (s : σ) (l : List α) :
    obs (l.foldl step s) = obs s ++ l.flatMap contrib := by
  induction l generalizing s with
  | nil => exact (List.append_nil _).symm
  | cons a l ih => rw [List.foldl_cons, ih, h, List.append_assoc, List.flatMap_cons]

theorem flatMap_eq_of_unique {α β : Type} {l : List α} (hnd : l.Nodup) {t : α} (ht : t ∈ l)
    {g : α → List β} (hg : ∀ a, a ≠ t → g a = []) : l.flatMap g = g t := by
  induction l with
  | nil => exact absurd ht List.not_mem_nil
  | cons a as ih =>
    rewrite [List.nodup_cons] at hnd
    rewrite [List.flatMap_cons]
    rcases List.mem_cons.mp ht with rfl | ht'
    · rw [List.flatMap_eq_nil_iff.mpr fun b hb => hg b fun e => hnd.1 (e ▸ hb), List.append_nil]
    · rw [hg a fun e => hnd.1 (e ▸ ht'), List.nil_append, ih hnd.2 ht']

/-- every value stored under key `c`, in order (equals `lookupArgs` when keys are distinct) -/
def allArgs (m : CmdArgs) (c : String) : List String :=
  m.flatMap fun kv => if kv.1 = c then kv.2 else []

theorem allArgs_cons (kv : String × List String) (m : CmdArgs) (c : String) :
    allArgs (kv :: m) c = (if kv.1 = c then kv.2 else []) ++ allArgs m c :=
  List.flatMap_cons

theorem allArgs_eq_nil {m : CmdArgs} {c : String} (h : c ∉ m.map (·.1)) : allArgs m c = [] :=
  List.flatMap_eq_nil_iff.mpr fun kv hkv => if_neg fun e => h (List.mem_map.mpr ⟨kv, hkv, e⟩)

theorem allArgs_eq_lookup {m : CmdArgs} (h : (m.map (·.1)).Nodup) (c : String) :
    allArgs m c = lookupArgs m c := by
  fun_induction lookupArgs m c with
  | case1 => rfl
  | case2 v rest =>
    rw [allArgs_cons, if_pos rfl, allArgs_eq_nil (List.nodup_cons.mp h).1, List.append_nil]
  | case3 k v rest hk ih => rw [allArgs_cons, if_neg hk, ih (List.nodup_cons.mp h).2, List.nil_append]

/-- The case analysis behind both levels of the table: an entry with key `k` meets an update at key
`c` (its value `x` gains `z`) and is then looked up at `c'`; `y` is what the rest yields. -/
theorem ite_update {κ β : Type} [DecidableEq κ] (k c c' : κ) (x y z : List β) :
    (if k = c then if k = c' then x ++ z else y
      else if k = c' then x else y ++ if c = c' then z else []) =
      (if k = c' then x else y) ++ if c = c' then z else [] := by
  by_cases hk : k = c
  · subst hk
    by_cases h : k = c'
    · rw [if_pos rfl, if_pos h, if_pos h, if_pos h]
    · rw [if_pos rfl, if_neg h, if_neg h, if_neg h, List.append_nil]
  · by_cases h : k = c'
    · rw [if_neg hk, if_pos h, if_pos h, if_neg (h ▸ Ne.symm hk), List.append_nil]
    · rw [if_neg hk, if_neg h, if_neg h]

theorem lookup_mergeCmd (dst : CmdArgs) (c : String) (args : List String) (c' : String) :
    lookupArgs (mergeCmd dst c args) c' = lookupArgs dst c' ++ if c = c' then args else [] := by
  induction dst with
  | nil => rfl
  | cons kv rest ih =>
    rewrite [mergeCmd, apply_ite (lookupArgs · c'), lookupArgs, lookupArgs, lookupArgs, ih]
    -- the goal is `ite_update` at k := kv.1, x := kv.2, y := lookupArgs rest c', z := args
    exact ite_update ..

theorem lookup_mergeFile (dst src : CmdArgs) (c : String) :
    lookupArgs (mergeFile dst src) c = lookupArgs dst c ++ allArgs src c :=
  foldl_append_flatMap (lookupArgs · c) _ _ (fun d kv => lookup_mergeCmd d kv.1 kv.2 c) dst src

theorem getArgs_mergeTarget (tbl : Table) (t : String) (src : CmdArgs) (t' c : String) :
    getArgs (mergeTarget tbl t src) t' c =
      getArgs tbl t' c ++ if t = t' then allArgs src c else [] := by
  induction tbl with
  | nil => rewrite [mergeTarget, getArgs, getArgs, lookup_mergeFile]; rfl
  | cons km rest ih =>
    rewrite [mergeTarget, apply_ite (getArgs · t' c), getArgs, getArgs, getArgs, ih, lookup_mergeFile]
    -- `ite_update` again, one level up: k := km.1, x := lookupArgs km.2 c, z := allArgs src c
    exact ite_update ..

/-- `hkeys`: the keys of a parsed argmap file are distinct (it was a JSON object) -/
theorem getArgs_mergeTargetArgmaps (inp : ArgInput) (tbl : Table) (t : String) {files : TargetFiles}
    (hkeys : ∀ n src, files n = some src → (src.map (·.1)).Nodup) (t' c : String) :
    getArgs (mergeTargetArgmaps inp tbl t files) t' c = getArgs tbl t' c ++
      ((if inp.useBase then ["base"] else []) ++ inp.argmaps).flatMap fun n =>
        if t = t' then fileEntry files c n else [] := by
  refine foldl_append_flatMap (getArgs · t' c) _ _ (fun tb n => ?_) tbl _
  rewrite [fileEntry]
  cases hf : files n with
  | none => simp only [ite_self, List.append_nil]
  | some src => rw [getArgs_mergeTarget, allArgs_eq_lookup (hkeys n src hf)]

theorem getArgs_mergeRunInput {inp : ArgInput} {tbl tbl' : Table} (h : mergeRunInput inp tbl = .ok tbl')
    (t c : String) :
    getArgs tbl' t c =
      getArgs tbl t c ++ if inp.namedTargets = [t] ∧ inp.commands = [c] then inp.args else [] := by
  revert h
  fun_cases mergeRunInput inp tbl with
  | case1 hargs =>
    rintro ⟨⟩
    rw [List.isEmpty_iff.mp hargs, ite_self, List.append_nil]
  | case2 | case4 => nofun
  | case3 hargs hlen t0 hnamed =>
    rintro ⟨⟩
    obtain ⟨c0, hc0⟩ := List.length_eq_one_iff.mp (by simpa using hlen)
    rewrite [getArgs_mergeTarget, hnamed, hc0]
    by_cases htt : t0 = t <;> simp [allArgs, htt]

end Monorail
