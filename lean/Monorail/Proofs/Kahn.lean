import Monorail.Model.Kahn
import Monorail.Proofs.Graph
/-! The counter / queue loop of `get_groups` refines the abstract layering. -/
namespace Monorail

theorem decEdge_deg (visB : Nat → Bool) (st : KSt) (e v : Nat) :
    (decEdge visB st e).deg v = if v = e then st.deg e - 1 else st.deg v := rfl

theorem mem_decEdge_next {visB : Nat → Bool} {st : KSt} {e v : Nat} :
    v ∈ (decEdge visB st e).next ↔ v ∈ st.next ∨ (v = e ∧ st.deg e - 1 = 0 ∧ visB e = true) := by
  unfold decEdge
  dsimp only
  split <;> rename_i hc <;> simp only [Bool.and_eq_true, decide_eq_true_eq] at hc
  · simp only [List.mem_cons, hc, and_true, or_comm]
  · simp only [hc, and_false, or_false]

theorem decEdge_nodup {visB : Nat → Bool} {st : KSt} {e : Nat} (hnd : st.next.Nodup)
    (he : e ∉ st.next) : (decEdge visB st e).next.Nodup := by
  unfold decEdge
  dsimp only
  split
  exacts [List.nodup_cons.mpr ⟨he, hnd⟩, hnd]

/-- A fold of `decEdge` from an empty queue over the edges `es`, when the counters count `es` and
the edges `tail` still to come: afterwards the counters count `tail`, and the queue holds, once
each, the visible nodes whose last edge was in `es`. -/
theorem foldl_decEdge {visB : Nat → Bool} {deg : Nat → Nat} {es : List Nat} : ∀ {tail : List Nat},
    (∀ v, deg v = (es ++ tail).count v) →
    (∀ v, (es.foldl (decEdge visB) ⟨deg, []⟩).deg v = tail.count v) ∧
    (es.foldl (decEdge visB) ⟨deg, []⟩).next.Nodup ∧
    ∀ v, v ∈ (es.foldl (decEdge visB) ⟨deg, []⟩).next ↔ visB v = true ∧ v ∈ es ∧ v ∉ tail := by
  induction es using List.reverseRecOn with
  | nil => exact fun h => ⟨h, List.nodup_nil, fun v =>
    iff_of_false List.not_mem_nil fun h => List.not_mem_nil h.2.1⟩
  | append_singleton l e ih =>
    intro tail h
    obtain ⟨hd, hn, hm⟩ := ih (tail := e :: tail) fun v =>
      (h v).trans (congrArg _ (List.append_cons l e tail).symm)
    rewrite [List.foldl_concat]
    refine ⟨fun v => ?_, decEdge_nodup hn fun he => ((hm e).mp he).2.2 List.mem_cons_self,
      fun v => ?_⟩
    · rewrite [decEdge_deg, hd, hd, List.count_cons_self, Nat.add_sub_cancel]
      by_cases hv : v = e
      · rw [if_pos hv, hv]
      · rw [if_neg hv, List.count_cons_of_ne (Ne.symm hv)]
    · rewrite [mem_decEdge_next, hm, hd, List.count_cons_self, Nat.add_sub_cancel,
        List.count_eq_zero, List.mem_append, List.mem_singleton, List.mem_cons, not_or]
      by_cases hv : v = e
      · subst hv
        simp only [not_true, false_and, false_or, true_and, or_true, and_comm]
      · simp only [hv, false_and, or_false, not_false_eq_true, true_and]

theorem procLayer_eq (g : Graph) (visB : Nat → Bool) (deg : Nat → Nat) (work : List Nat) :
    procLayer g visB deg work = (work.flatMap g.out).foldl (decEdge visB) ⟨deg, []⟩ :=
  List.foldl_flatMap.symm

theorem indegOf_eq_count (g : Graph) (P : List Nat) (v : Nat) :
    indegOf g P v = (P.flatMap g.out).count v :=
  List.count_flatMap.symm

theorem indegOf_cons (g : Graph) (u : Nat) (rest : List Nat) (v : Nat) :
    indegOf g (u :: rest) v = (g.out u).count v + indegOf g rest v :=
  List.sum_cons

theorem indegOf_perm (g : Graph) {a b : List Nat} (h : a.Perm b) (v : Nat) :
    indegOf g a v = indegOf g b v :=
  (h.map _).sum_nat

theorem indegOf_append (g : Graph) (a b : List Nat) (v : Nat) :
    indegOf g (a ++ b) v = indegOf g a v + indegOf g b v := by
  simp only [indegOf, List.map_append, List.sum_append]

theorem indegOf_eq_zero (g : Graph) (rem : List Nat) (v : Nat) :
    indegOf g rem v = 0 ↔ ∀ u ∈ rem, v ∉ g.out u := by
  rewrite [indegOf_eq_count, List.count_eq_zero, List.mem_flatMap, not_exists]
  exact forall_congr' fun u => not_and

theorem mem_peel_indeg {g : Graph} {rem : List Nat} {v : Nat} :
    v ∈ peel g rem ↔ v ∈ rem ∧ indegOf g rem v = 0 := by
  rw [mem_peel, indegOf_eq_zero]

theorem mem_peel_flatMap {g : Graph} {rem : List Nat} {v : Nat} :
    v ∈ peel g rem ↔ v ∈ rem ∧ v ∉ rem.flatMap g.out := by
  simp only [mem_peel, List.mem_flatMap, not_exists, not_and]

theorem peel_nodup {g : Graph} {rem : List Nat} (h : rem.Nodup) : (peel g rem).Nodup :=
  h.filter _

/-- the loop invariant between two passes over the work queue: the counters count the edges that
leave the remaining nodes, and such an edge, when it points at a visible node, points into `rem` -/
structure KInv (g : Graph) (vis rem : List Nat) (deg : Nat → Nat) (work : List Nat) : Prop where
  rem_nodup : rem.Nodup
  sub : ∀ v ∈ rem, v ∈ vis
  deg_eq : ∀ v, deg v = (rem.flatMap g.out).count v
  work_perm : work.Perm (peel g rem)
  pending : ∀ v ∈ rem.flatMap g.out, v ∈ vis → v ∈ rem

theorem filter_contains_eq {rem a b : List Nat} (h : ∀ v, v ∈ a ↔ v ∈ b) :
    rem.filter (fun v => !a.contains v) = rem.filter (fun v => !b.contains v) := by
  simp only [List.contains_eq_mem, h]

/-- One pass over the queue re-establishes the invariant for `rem'`, what remains when the current
group `peel g rem` has been released. -/
theorem KInv.step {g : Graph} {vis rem rem' : List Nat} {deg : Nat → Nat} {work : List Nat}
    (h : KInv g vis rem deg work) (hp : (peel g rem ++ rem').Perm rem) :
    KInv g vis rem' (procLayer g (fun v => vis.contains v) deg work).deg
      (procLayer g (fun v => vis.contains v) deg work).next := by
  rewrite [procLayer_eq]
  have hnd := List.nodup_append.mp (hp.nodup_iff.mpr h.rem_nodup)
  have hE := ((h.work_perm.append_right rem').trans hp).flatMap_right g.out
  rewrite [List.flatMap_append] at hE
  obtain ⟨hd, hn, hm⟩ := foldl_decEdge (visB := fun v => vis.contains v) fun v =>
    (h.deg_eq v).trans (hE.count_eq v).symm
  -- a visible node with an edge from `rem` pointing at it is not released now
  have hkey : ∀ v ∈ rem.flatMap g.out, v ∈ vis → v ∈ rem' := fun v hv hvis =>
    (List.mem_append.mp (hp.mem_iff.mpr (h.pending v hv hvis))).resolve_left fun hpv =>
      (mem_peel_flatMap.mp hpv).2 hv
  refine ⟨hnd.2.1, fun v hv => h.sub v (hp.subset (List.mem_append_right _ hv)), hd, ?_,
    fun v hv => hkey v (hE.subset (List.mem_append_right _ hv))⟩
  refine (List.perm_ext_iff_of_nodup hn (peel_nodup hnd.2.1)).mpr fun v => ?_
  rewrite [hm, mem_peel_flatMap, List.contains_iff_mem, ← and_assoc]
  refine and_congr_left fun h0 =>
    ⟨fun hw => hkey v (hE.subset (List.mem_append_left _ hw.2)) hw.1, fun hv => ?_⟩
  have hr := hp.subset (List.mem_append_right _ hv)
  -- `v` stays, so some edge from `rem` points at it, and none from `rem'` does
  have hin : v ∈ rem.flatMap g.out := Classical.byContradiction fun hne =>
    hnd.2.2 v (mem_peel_flatMap.mpr ⟨hr, hne⟩) v hv rfl
  exact ⟨h.sub v hr, (List.mem_append.mp (hE.mem_iff.mpr hin)).resolve_right h0⟩

/-- two lists of groups that agree group by group as sets -/
def sameLayers : List (List Nat) → List (List Nat) → Prop
  | [], [] => True
  | a :: as, b :: bs => a.Perm b ∧ sameLayers as bs
  | _, _ => False

theorem sameLayers_iff {cs gs : List (List Nat)} :
    sameLayers cs gs ↔ List.Forall₂ List.Perm cs gs := by
  induction cs generalizing gs <;> cases gs <;> simp [sameLayers, *]

theorem sameLayers_flatten {cs gs : List (List Nat)} (h : sameLayers cs gs) :
    cs.flatten.Perm gs.flatten :=
  List.Perm.flatten_congr (sameLayers_iff.mp h)

theorem sameLayers_before {cs gs : List (List Nat)} (h : sameLayers cs gs) {x y : Nat}
    (hB : Before gs x y) : Before cs x y := by
  obtain ⟨l₁, l₂, rfl, hx, hy⟩ := before_iff_cut.mp hB
  have hF := sameLayers_iff.mp h
  exact before_iff_cut.mpr ⟨_, _, (List.take_append_drop l₁.length cs).symm,
    (List.Perm.flatten_congr (List.forall₂_take_append _ _ _ hF)).mem_iff.mpr hx,
    (List.Perm.flatten_congr (List.forall₂_drop_append _ _ _ hF)).mem_iff.mpr hy⟩

/-- Besides the groups, the loop returns its counters: they count the edges that leave the leftover
of the layering, which is what the `any` test of `kahn` reads to detect a cycle. -/
theorem kahnAux_refines (g : Graph) (vis : List Nat) (fuel : Nat) {rem : List Nat} {deg : Nat → Nat}
    {work : List Nat} (h : KInv g vis rem deg work) :
    sameLayers (kahnAux g (fun v => vis.contains v) fuel deg work).1 (layersAux g fuel rem).1 ∧
    ∀ v, (kahnAux g (fun v => vis.contains v) fuel deg work).2 v =
      ((layersAux g fuel rem).2.flatMap g.out).count v := by
  induction fuel generalizing rem deg work with
  | zero => exact ⟨trivial, h.deg_eq⟩
  | succ fuel ih =>
    rewrite [kahnAux, layersAux, h.work_perm.isEmpty_eq]
    cases (peel g rem).isEmpty with
    | true => exact ⟨trivial, h.deg_eq⟩
    | false =>
      -- both loops release a group: `sameLayers (work :: _) (peel g rem :: _)` is a conjunction
      exact (ih (h.step (peel_append_perm g rem))).imp_left (And.intro h.work_perm)

/-- **Refinement.** On a duplicate-free visible set the counter / queue loop of `get_groups` fails
exactly when the abstract layering leaves something over, and otherwise yields the same groups,
group by group, as sets. -/
theorem kahn_refines (g : Graph) (vis : List Nat) (hnd : vis.Nodup) (hlt : ∀ v ∈ vis, v < g.size) :
    (kahn g vis = .error .cycle ↔ (layers g vis).2 ≠ []) ∧
    (∀ cs, kahn g vis = .ok cs → sameLayers cs (layers g vis).1) := by
  obtain ⟨r1, r2⟩ : sameLayers (kahnRun g vis).1 (layers g vis).1 ∧
      ∀ v, (kahnRun g vis).2 v = ((layers g vis).2.flatMap g.out).count v := by
    refine kahnAux_refines g vis vis.length
      ⟨hnd, fun _ h => h, indegOf_eq_count g vis, ?_, fun _ _ hv => hv⟩
    refine (List.perm_ext_iff_of_nodup (List.nodup_range.filter _) (peel_nodup hnd)).mpr fun v => ?_
    rewrite [mem_peel_indeg, List.mem_filter, List.mem_range, Bool.and_eq_true, beq_iff_eq,
      List.contains_iff_mem]
    exact (and_iff_right_of_imp fun h => hlt v h.2).trans and_comm
  have hany : (vis.any (fun v => (kahnRun g vis).2 v != 0)) = true ↔ (layers g vis).2 ≠ [] := by
    simp only [List.any_eq_true, bne_iff_ne, ne_eq, r2]
    constructor
    · rintro ⟨v, _, hv⟩ hnil
      rewrite [hnil] at hv
      exact hv rfl
    · intro hne
      obtain ⟨a, ha⟩ := List.exists_mem_of_ne_nil _ hne
      exact ⟨a, layers_leftover_subset g vis a ha, fun h0 =>
        List.count_eq_zero.mp h0 (List.mem_flatMap.mpr (layersAux_leftover_stuck g _ vis (Nat.le_refl _) a ha))⟩
  unfold kahn
  cases hc : vis.any (fun v => (kahnRun g vis).2 v != 0) with
  | true => exact ⟨iff_of_true rfl (hany.mp hc), fun cs h => by cases h⟩
  | false =>
    refine ⟨iff_of_false (fun h => by cases h) (mt hany.mpr (Bool.eq_false_iff.mp hc)),
      fun cs hcs => ?_⟩
    cases hcs
    exact r1

theorem kahn_groups (g : Graph) (roots : List Nat) :
    (kahn g (closure g roots) = .error .cycle ↔ groups g roots = .error .cycle) ∧
    (∀ cs, kahn g (closure g roots) = .ok cs → ∃ gs, groups g roots = .ok gs ∧ sameLayers cs gs) := by
  obtain ⟨h1, h2⟩ := kahn_refines g (closure g roots) (closure_nodup g roots) (closure_lt g roots)
  refine ⟨h1.trans groups_error_iff.symm, fun cs hcs => ⟨_, groups_ok_iff.mpr ⟨?_, rfl⟩, h2 cs hcs⟩⟩
  by_contra hne
  cases (h1.mpr hne).symm.trans hcs

theorem kahnRun_perm (g : Graph) {vis vis' : List Nat} (h : vis.Perm vis') :
    kahnRun g vis = kahnRun g vis' := by
  simp only [kahnRun, funext (indegOf_perm g h), h.contains_eq, h.length_eq]

theorem kahn_perm (g : Graph) {vis vis' : List Nat} (h : vis.Perm vis') : kahn g vis = kahn g vis' := by
  simp only [kahn, kahnRun_perm g h, h.any_eq]

end Monorail
