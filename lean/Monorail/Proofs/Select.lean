import Monorail.Model.Select
import Monorail.Proofs.Exec
/-!
# The plan laid out from target groups: positions and distinct ids
-/
namespace Monorail

theorem cmdGroups_length (n : Nat) (disp : Nat → Nat → Disp) (c : Nat) (groups : List (List Nat)) :
    (cmdGroups n disp c groups).length = groups.length :=
  List.length_map _

theorem getElem?_flatMap_range {α : Type} {L : Nat} : ∀ {m : Nat} (f : Nat → List α),
    (∀ c, (f c).length = L) → ∀ {c k : Nat}, c < m → k < L →
      ((List.range m).flatMap f)[c * L + k]? = (f c)[k]? := by
  intro m
  induction m with
  | zero => intro _ _ c _ hc; exact absurd hc (Nat.not_lt_zero c)
  | succ m ih =>
    intro f hf c k hc hk
    rewrite [List.range_succ_eq_map, List.flatMap_cons, List.flatMap_map]
    cases c with
    | zero =>
      rw [Nat.zero_mul, Nat.zero_add, List.getElem?_append_left (Nat.lt_of_lt_of_eq hk (hf 0).symm)]
    | succ c =>
      rewrite [Nat.succ_mul, Nat.add_comm (c * L) L, Nat.add_assoc, List.getElem?_append_right
        (Nat.le_trans (Nat.le_of_eq (hf 0)) (Nat.le_add_right _ _)), hf, Nat.add_sub_cancel_left]
      exact ih (fun c => f (c + 1)) (fun c => hf _) (Nat.lt_of_succ_lt_succ hc) hk

theorem taskId_inj {n c c' t t' : Nat} (ht : t < n) (ht' : t' < n) (h : taskId n c t = taskId n c' t') :
    c = c' ∧ t = t' := by
  have htt : t = t' :=
    (Nat.mul_add_mod_of_lt ht).symm.trans ((congrArg (· % n) h).trans (Nat.mul_add_mod_of_lt ht'))
  subst htt
  exact ⟨Nat.eq_of_mul_eq_mul_right (Nat.zero_lt_of_lt ht) (Nat.add_right_cancel h), rfl⟩

theorem cmdGroups_ids (n : Nat) (disp : Nat → Nat → Disp) (c : Nat) (groups : List (List Nat)) :
    (cmdGroups n disp c groups).flatMap gIds = groups.flatten.map (taskId n c) := by
  simp [cmdGroups, gIds, List.flatMap_def, List.map_flatten, List.map_map, Function.comp_def]

theorem planIds_planOf (n : Nat) (disp : Nat → Nat → Disp) (groups : List (List Nat)) (ncmd : Nat) :
    planIds (planOf n ncmd disp groups) =
      (List.range ncmd).flatMap (fun c => groups.flatten.map (taskId n c)) := by
  simp only [planIds, planOf, List.flatMap_assoc, cmdGroups_ids]

/-- distinct (command, target) pairs get distinct task ids -/
theorem planIds_nodup (n : Nat) (disp : Nat → Nat → Disp) (groups : List (List Nat))
    (hnd : groups.flatten.Nodup) (hlt : ∀ t ∈ groups.flatten, t < n) :
    ∀ ncmd, (planIds (planOf n ncmd disp groups)).Nodup := by
  intro ncmd
  rewrite [planIds_planOf, List.nodup_flatMap]
  refine ⟨fun c _ => hnd.map_on fun a ha b hb hab => (taskId_inj (hlt a ha) (hlt b hb) hab).2,
    List.pairwise_lt_range.imp fun {c c'} hcc x hx hx' => ?_⟩
  obtain ⟨a, ha, rfl⟩ := List.mem_map.mp hx
  obtain ⟨b, hb, hab⟩ := List.mem_map.mp hx'
  exact Nat.ne_of_lt hcc (taskId_inj (hlt b hb) (hlt a ha) hab).1.symm

theorem planOf_succ (n ncmd : Nat) (disp : Nat → Nat → Disp) (groups : List (List Nat)) :
    planOf n (ncmd + 1) disp groups = planOf n ncmd disp groups ++ cmdGroups n disp ncmd groups := by
  unfold planOf
  rw [List.range_succ, List.flatMap_append, List.flatMap_singleton]

theorem planOf_length (n : Nat) (disp : Nat → Nat → Disp) (groups : List (List Nat)) :
    ∀ ncmd, (planOf n ncmd disp groups).length = ncmd * groups.length := by
  intro ncmd
  induction ncmd with
  | zero => simp [planOf]
  | succ k ih => rw [planOf_succ, List.length_append, ih, cmdGroups_length, Nat.succ_mul]

/-- group `k` of command `c` sits at plan position `c * (number of groups) + k` -/
theorem planOf_get (n : Nat) (disp : Nat → Nat → Disp) (groups : List (List Nat)) (ncmd c k : Nat)
    (hc : c < ncmd) (hk : k < groups.length) :
    (planOf n ncmd disp groups)[c * groups.length + k]? = (cmdGroups n disp c groups)[k]? :=
  getElem?_flatMap_range _ (fun c => cmdGroups_length n disp c groups) hc hk

theorem planOf_group (n : Nat) (disp : Nat → Nat → Disp) (groups : List (List Nat)) {ncmd c k : Nat}
    {G : List Nat} (hc : c < ncmd) (hk : groups[k]? = some G) :
    (planOf n ncmd disp groups)[c * groups.length + k]? =
      some (G.map (fun t => (⟨taskId n c t, disp c t⟩ : Task))) :=
  (planOf_get n disp groups ncmd c k hc (List.getElem?_eq_some_iff.mp hk).1).trans
    (List.getElem?_map.trans (congrArg (Option.map _) hk))

end Monorail
